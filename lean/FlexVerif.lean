import FlexVerif.Spec.Re
import FlexVerif.Spec.ReLemmas
import FlexVerif.Spec.Nl
import FlexVerif.Spec.Pat
import FlexVerif.Spec.Rules
import FlexVerif.Validator.SpecAuto
import FlexVerif.Validator.Bisim
import FlexVerif.Validator.Tables
import FlexVerif.Validator.Validate
import FlexVerif.Runtime.Abs
import FlexVerif.Runtime.AbsProofs
import FlexVerif.Runtime.Match
import FlexVerif.Runtime.MatchProofs
import FlexVerif.Runtime.Buf
import FlexVerif.Runtime.BufProofs
import FlexVerif.Runtime.BufTable
import FlexVerif.Props.C05
import FlexVerif.Props.C06
import FlexVerif.Props.C05Run
import FlexVerif.Props.C08
import FlexVerif.Props.C09
import FlexVerif.Ser.CodecProofs
import FlexVerif.Validator.Useful
import FlexVerif.M4.QuoteProofs
import FlexVerif.Props.C18
import FlexVerif.Props.C18Facts
import FlexVerif.Proc.Exit
import FlexVerif.Props.C19Facts
import FlexVerif.Opt.Lang
import FlexVerif.Gen.Options
import FlexVerif.Props.C19Opts
import FlexVerif.Props.C19OptsDefaults
import FlexVerif.Props.C19SymbolsWired
import FlexVerif.Props.C19SymbolsReach
import FlexVerif.Props.C12
import FlexVerif.Props.C12Facts
import FlexVerif.Props.C05StackC99
import FlexVerif.Props.C11StackC99
import FlexVerif.Props.C03NextBuf
import FlexVerif.Props.C03NextBufC99
import FlexVerif.Props.C03Refine
import FlexVerif.Props.C01Step
import FlexVerif.Props.C01StepC99
import FlexVerif.Props.C07Reject
import FlexVerif.Props.C01StepBuf
import FlexVerif.Props.C08UnputC99
import FlexVerif.Props.C08YYLess
import FlexVerif.Props.C11ScanBuf
import FlexVerif.Props.C11Flush
import FlexVerif.Props.C11FlushC99
import FlexVerif.Props.C01StepGen
import FlexVerif.Props.C11ScanBytes
