import FlexVerif.Spec.ReLemmas
/-
  Spec/Nl.lean — "this pattern can match a newline", decided on the regular expression.

  flex keeps `yylineno` by looking for newlines only in the text of rules it has flagged
  (`yy_rule_can_match_eol`).  The flag must be *sound*: set for every rule that matches some
  text containing a newline.  `Re.canNl` decides exactly that property of the denotation
  (`canNl_iff`), so the emitted table can be compared with it per program (C09).
-/
namespace FlexVerif
namespace ByteSet

def nonempty (s : ByteSet) : Bool := (List.range 256).any fun i => s.mem (UInt8.ofNat i)

theorem nonempty_iff (s : ByteSet) : s.nonempty = true ↔ ∃ b, s.mem b = true := by
  simp only [nonempty, List.any_eq_true, List.mem_range]
  exact ⟨fun ⟨_, _, h⟩ => ⟨_, h⟩, fun ⟨b, h⟩ => ⟨b.toNat, b.toNat_lt, by simpa using h⟩⟩

end ByteSet

namespace Re

def nonEmpty : Re → Bool
  | .empty => false
  | .eps => true
  | .cls s => s.nonempty
  | .cat a b => a.nonEmpty && b.nonEmpty
  | .alt a b => a.nonEmpty || b.nonEmpty
  | .star _ => true

theorem nonEmpty_iff : ∀ (r : Re), r.nonEmpty = true ↔ ∃ w, r.Matches w
  | .empty => by simp [nonEmpty, matches_empty_iff]
  | .eps => by simp [nonEmpty, matches_eps_iff]
  | .cls s => by
    simp only [nonEmpty, ByteSet.nonempty_iff, matches_cls_iff]
    exact ⟨fun ⟨b, h⟩ => ⟨_, b, rfl, h⟩, fun ⟨_, b, _, h⟩ => ⟨b, h⟩⟩
  | .cat a b => by
    simp only [nonEmpty, Bool.and_eq_true, nonEmpty_iff a, nonEmpty_iff b, matches_cat_iff]
    exact ⟨fun ⟨⟨u, hu⟩, v, hv⟩ => ⟨_, u, v, rfl, hu, hv⟩, fun ⟨_, u, v, _, hu, hv⟩ => ⟨⟨u, hu⟩, v, hv⟩⟩
  | .alt a b => by simp [nonEmpty, nonEmpty_iff a, nonEmpty_iff b, matches_alt_iff, exists_or]
  | .star a => by simp only [nonEmpty, true_iff]; exact ⟨[], .starNil⟩

def canNl : Re → Bool
  | .empty => false
  | .eps => false
  | .cls s => s.mem 10
  | .cat a b => (a.canNl && b.nonEmpty) || (a.nonEmpty && b.canNl)
  | .alt a b => a.canNl || b.canNl
  | .star a => a.canNl

/-- **`canNl` is exact**: it holds iff the pattern matches some text that contains a newline. -/
theorem canNl_iff : ∀ (r : Re), r.canNl = true ↔ ∃ w, r.Matches w ∧ (10 : Byte) ∈ w
  | .empty => by simp [canNl, matches_empty_iff]
  | .eps => by simp [canNl, matches_eps_iff]
  | .cls s => by
    simp only [canNl, matches_cls_iff]
    exact ⟨fun h => ⟨_, ⟨10, rfl, h⟩, List.mem_singleton_self _⟩,
      fun ⟨_, ⟨b, e, hb⟩, hn⟩ => by subst e; rwa [List.mem_singleton.mp hn]⟩
  | .cat a b => by
    simp only [canNl, Bool.or_eq_true, Bool.and_eq_true, canNl_iff a, canNl_iff b, nonEmpty_iff, matches_cat_iff]
    constructor
    · rintro (⟨⟨u, hu, hn⟩, ⟨v, hv⟩⟩ | ⟨⟨u, hu⟩, ⟨v, hv, hn⟩⟩)
      · exact ⟨_, ⟨u, v, rfl, hu, hv⟩, List.mem_append_left _ hn⟩
      · exact ⟨_, ⟨u, v, rfl, hu, hv⟩, List.mem_append_right _ hn⟩
    · rintro ⟨_, ⟨u, v, rfl, hu, hv⟩, hn⟩
      exact (List.mem_append.mp hn).imp (fun h => ⟨⟨u, hu, h⟩, ⟨v, hv⟩⟩) (fun h => ⟨⟨u, hu⟩, ⟨v, hv, h⟩⟩)
  | .alt a b => by
    simp only [canNl, Bool.or_eq_true, canNl_iff a, canNl_iff b, matches_alt_iff, or_and_right, exists_or]
  | .star a => by
    rw [canNl, canNl_iff a]
    constructor
    · rintro ⟨u, hu, hn⟩
      exact ⟨u ++ [], .starCons hu .starNil, List.mem_append_left _ hn⟩
    · -- a match of `a*` whose text contains a newline has an iteration that does
      rintro ⟨w, h, hn⟩
      exact h.star_rec (P := fun w => (10 : Byte) ∈ w → ∃ u, a.Matches u ∧ (10 : Byte) ∈ u) (nomatch ·)
        (fun hu _ ih hn => (List.mem_append.mp hn).elim (fun h => ⟨_, hu, h⟩) ih) hn

end Re
end FlexVerif
