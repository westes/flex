import FlexVerif.Spec.Re
/-
  Spec/ReLemmas.lean — the partial-derivative matcher is exactly the denotation.
-/
namespace FlexVerif
namespace Re

theorem matches_empty_iff {w : List Byte} : Matches .empty w ↔ False :=
  ⟨(nomatch ·), False.elim⟩

theorem matches_eps_iff {w : List Byte} : Matches .eps w ↔ w = [] :=
  ⟨fun h => by cases h; rfl, fun h => h ▸ .eps⟩

theorem matches_cls_iff {s : ByteSet} {w : List Byte} :
    Matches (.cls s) w ↔ ∃ b, w = [b] ∧ s.mem b = true :=
  ⟨fun h => by cases h with | cls hb => exact ⟨_, rfl, hb⟩, fun ⟨_, e, hb⟩ => e ▸ .cls hb⟩

theorem matches_cat_iff {a b : Re} {w : List Byte} :
    Matches (.cat a b) w ↔ ∃ u v, w = u ++ v ∧ Matches a u ∧ Matches b v :=
  ⟨fun h => by cases h with | cat h1 h2 => exact ⟨_, _, rfl, h1, h2⟩,
   fun ⟨_, _, e, h1, h2⟩ => e ▸ .cat h1 h2⟩

theorem matches_alt_iff {a b : Re} {w : List Byte} :
    Matches (.alt a b) w ↔ Matches a w ∨ Matches b w :=
  ⟨fun h => by cases h with | altL h => exact .inl h | altR h => exact .inr h,
   fun h => h.elim .altL .altR⟩

theorem matches_cat_cons_iff {a b : Re} {c : Byte} {w : List Byte} :
    Matches (.cat a b) (c :: w) ↔
      (∃ u v, w = u ++ v ∧ Matches a (c :: u) ∧ Matches b v) ∨ (Matches a [] ∧ Matches b (c :: w)) := by
  rw [matches_cat_iff]
  constructor
  · rintro ⟨u, v, h, h1, h2⟩
    cases u with
    | nil => exact .inr ⟨h1, h ▸ h2⟩
    | cons d u => cases h; exact .inl ⟨u, v, rfl, h1, h2⟩
  · rintro (⟨u, v, rfl, h1, h2⟩ | ⟨h1, h2⟩)
    · exact ⟨c :: u, v, rfl, h1, h2⟩
    · exact ⟨[], _, rfl, h1, h2⟩

theorem nullable_iff (r : Re) : r.nullable = true ↔ Matches r [] := by
  induction r with
  | empty => simp [nullable, matches_empty_iff]
  | eps => simp [nullable, matches_eps_iff]
  | cls s => simp [nullable, matches_cls_iff]
  | cat a b iha ihb =>
    simp only [nullable, Bool.and_eq_true, iha, ihb, matches_cat_iff]
    constructor
    · rintro ⟨h1, h2⟩; exact ⟨[], [], rfl, h1, h2⟩
    · rintro ⟨u, v, h, h1, h2⟩
      obtain ⟨rfl, rfl⟩ := List.append_eq_nil_iff.mp h.symm
      exact ⟨h1, h2⟩
  | alt a b iha ihb => simp only [nullable, Bool.or_eq_true, iha, ihb, matches_alt_iff]
  | star a _ => exact ⟨fun _ => .starNil, fun _ => rfl⟩

theorem mkCat_matches {a b : Re} {w : List Byte} :
    Matches (mkCat a b) w ↔ Matches (.cat a b) w := by
  unfold mkCat
  split
  · rw [matches_cat_iff]
    exact ⟨fun h => ⟨[], w, rfl, .eps, h⟩, fun ⟨_, _, e, h1, h2⟩ => by cases h1; exact e ▸ h2⟩
  · simp [matches_cat_iff, matches_empty_iff]
  · exact Iff.rfl

/-- `induction` on a derivation of `Matches (.star a) w` has to generalise the index and dismiss
    the other constructors; that is done once, here. -/
theorem Matches.star_rec {a : Re} {P : List Byte → Prop} (nil : P [])
    (cons : ∀ {u v}, Matches a u → Matches (.star a) v → P v → P (u ++ v))
    {w : List Byte} (h : Matches (.star a) w) : P w := by
  generalize hr : Re.star a = r at h
  induction h with
  | starNil => exact nil
  | starCons h1 h2 _ ih => cases hr; exact cons h1 h2 (ih rfl)
  | _ => cases hr

theorem matches_star_cons_iff {a : Re} {c : Byte} {w : List Byte} :
    Matches (.star a) (c :: w) ↔ ∃ u v, w = u ++ v ∧ Matches a (c :: u) ∧ Matches (.star a) v := by
  constructor
  · intro h
    refine h.star_rec (P := fun x => ∀ w, x = c :: w → ∃ u v, w = u ++ v ∧ Matches a (c :: u) ∧ Matches (.star a) v)
      (fun _ h => nomatch h) (fun {u v} h1 h2 ih w h => ?_) w rfl
    cases u with
    | nil => exact ih w h
    | cons d u => cases h; exact ⟨u, v, rfl, h1, h2⟩
  · rintro ⟨u, v, rfl, h1, h2⟩
    exact .starCons h1 h2

theorem exists_mem_map_mkCat {l : List Re} {b : Re} {w : List Byte} :
    (∃ p, p ∈ l.map (fun p => mkCat p b) ∧ Matches p w) ↔
      ∃ u v, w = u ++ v ∧ (∃ q, q ∈ l ∧ Matches q u) ∧ Matches b v := by
  constructor
  · rintro ⟨_, hp, hm⟩
    obtain ⟨q, hq, rfl⟩ := List.mem_map.mp hp
    obtain ⟨u, v, rfl, h1, h2⟩ := matches_cat_iff.mp (mkCat_matches.mp hm)
    exact ⟨u, v, rfl, ⟨q, hq, h1⟩, h2⟩
  · rintro ⟨u, v, rfl, ⟨q, hq, h1⟩, h2⟩
    exact ⟨_, List.mem_map.mpr ⟨q, hq, rfl⟩, mkCat_matches.mpr (.cat h1 h2)⟩

/-- **Correctness of partial derivatives**: the residuals of `r` after `c` accept exactly the
    tails of the words of `r` that start with `c`. -/
theorem pderiv_correct (c : Byte) (r : Re) (w : List Byte) :
    (∃ p, p ∈ pderiv c r ∧ Matches p w) ↔ Matches r (c :: w) := by
  induction r generalizing w with
  | empty => simp [pderiv, matches_empty_iff]
  | eps => simp [pderiv, matches_eps_iff]
  | cls s => by_cases hs : s.mem c <;> simp [pderiv, matches_cls_iff, matches_eps_iff, and_assoc, hs]
  | alt a b iha ihb =>
    simp only [pderiv, List.mem_append, or_and_right, exists_or, iha, ihb, matches_alt_iff]
  | cat a b iha ihb =>
    simp only [pderiv, List.mem_append, or_and_right, exists_or, exists_mem_map_mkCat, iha,
      matches_cat_cons_iff]
    refine or_congr Iff.rfl ?_
    by_cases hn : a.nullable <;> simp [hn, ihb, ← nullable_iff]
  | star a iha => simp only [pderiv, exists_mem_map_mkCat, iha, matches_star_cons_iff]

inductive Power (a : Re) : Nat → List Byte → Prop
  | zero : Power a 0 []
  | succ {n : Nat} {u v : List Byte} : Matches a u → Power a n v → Power a (n + 1) (u ++ v)

theorem pow_matches {a : Re} {n : Nat} {w : List Byte} : Matches (pow a n) w ↔ Power a n w := by
  induction n generalizing w with
  | zero => exact matches_eps_iff.trans ⟨fun h => h ▸ .zero, fun h => by cases h; rfl⟩
  | succ n ih =>
    simp only [pow, matches_cat_iff, ih]
    exact ⟨fun ⟨_, _, e, h1, h2⟩ => e ▸ .succ h1 h2, fun h => by cases h with | succ h1 h2 => exact ⟨_, _, rfl, h1, h2⟩⟩

theorem star_matches {a : Re} {w : List Byte} : Matches (.star a) w ↔ ∃ n, Power a n w := by
  constructor
  · exact fun h => h.star_rec (P := fun w => ∃ n, Power a n w) ⟨0, .zero⟩
      fun h1 _ ⟨n, hn⟩ => ⟨n + 1, .succ h1 hn⟩
  · rintro ⟨n, hn⟩
    induction hn with
    | zero => exact .starNil
    | succ h1 _ ih => exact .starCons h1 ih

theorem upTo_matches {a : Re} {n : Nat} {w : List Byte} :
    Matches (upTo a n) w ↔ ∃ k, k ≤ n ∧ Power a k w := by
  induction n generalizing w with
  | zero =>
    simp only [upTo, matches_eps_iff, Nat.le_zero]
    exact ⟨fun h => ⟨0, rfl, h ▸ .zero⟩, fun ⟨_, hk, hp⟩ => by subst hk; cases hp; rfl⟩
  | succ n ih =>
    simp only [upTo, matches_alt_iff, matches_eps_iff, matches_cat_iff, ih]
    constructor
    · rintro (rfl | ⟨u, v, rfl, h1, k, hk, hp⟩)
      · exact ⟨0, Nat.zero_le _, .zero⟩
      · exact ⟨k + 1, Nat.succ_le_succ hk, .succ h1 hp⟩
    · rintro ⟨k, hk, hp⟩
      cases hp with
      | zero => exact .inl rfl
      | succ h1 h2 => exact .inr ⟨_, _, rfl, h1, _, Nat.le_of_succ_le_succ hk, h2⟩

theorem power_add {a : Re} {m n : Nat} {u v : List Byte} :
    Power a m u → Power a n v → Power a (m + n) (u ++ v) := by
  intro h1 h2
  induction h1 with
  | zero => simpa using h2
  | @succ k x y hx _ ih => rw [List.append_assoc, Nat.add_right_comm]; exact .succ hx ih

theorem power_split {a : Re} {m n : Nat} {w : List Byte} :
    Power a (m + n) w → ∃ u v, w = u ++ v ∧ Power a m u ∧ Power a n v := by
  induction m generalizing w with
  | zero => intro h; exact ⟨[], w, rfl, .zero, by simpa using h⟩
  | succ m ih =>
    rw [Nat.add_right_comm]
    intro h
    cases h with
    | succ h1 h2 =>
      obtain ⟨u, v, rfl, hu, hv⟩ := ih h2
      exact ⟨_ ++ u, v, (List.append_assoc ..).symm, .succ h1 hu, hv⟩

/-- both forms of `rep` are `pow a lo` followed by an `r` of this kind (`star a`, `upTo a n`) -/
theorem pow_cat_matches {a r : Re} {B : Nat → Prop} (hr : ∀ v, Matches r v ↔ ∃ n, B n ∧ Power a n v)
    {lo : Nat} {w : List Byte} :
    Matches (.cat (pow a lo) r) w ↔ ∃ k, lo ≤ k ∧ B (k - lo) ∧ Power a k w := by
  simp only [matches_cat_iff, pow_matches, hr]
  constructor
  · rintro ⟨u, v, rfl, h1, n, hb, h2⟩
    exact ⟨lo + n, Nat.le_add_right .., by rwa [Nat.add_sub_cancel_left], power_add h1 h2⟩
  · rintro ⟨k, hk, hb, hp⟩
    obtain ⟨n, rfl⟩ := Nat.exists_eq_add_of_le hk
    obtain ⟨u, v, rfl, hu, hv⟩ := power_split hp
    exact ⟨u, v, rfl, hu, n, by rwa [Nat.add_sub_cancel_left] at hb, hv⟩

/-- **Counted repetition** `a{lo,hi}` denotes the words that are `k`-fold concatenations of
    words of `a` for some `lo ≤ k ≤ hi` (`hi = none`: no upper bound). -/
theorem rep_matches {a : Re} {lo : Nat} {hi : Option Nat} {w : List Byte} :
    Matches (rep a lo hi) w ↔ ∃ k, lo ≤ k ∧ (∀ h, hi = some h → k ≤ h) ∧ Power a k w := by
  unfold rep
  cases hi with
  | none => simpa using pow_cat_matches (B := fun _ => True) (by simp [star_matches])
  | some h =>
    simp only [Option.some.injEq, forall_eq']
    split
    · simp only [matches_empty_iff, false_iff]
      rintro ⟨k, _, _, _⟩; omega
    · rw [pow_cat_matches (B := (· ≤ h - lo)) fun _ => upTo_matches]
      exact exists_congr fun k => and_congr_right fun _ => and_congr_left' (Nat.sub_le_sub_iff_right (Nat.le_of_not_lt ‹_›))

theorem plus_matches {a : Re} {w : List Byte} :
    Matches (plus a) w ↔ ∃ k, 1 ≤ k ∧ Power a k w := by
  unfold plus
  simp only [matches_cat_iff, star_matches]
  constructor
  · rintro ⟨u, v, rfl, h1, n, hn⟩
    exact ⟨n + 1, Nat.succ_pos n, .succ h1 hn⟩
  · rintro ⟨k, hk, hp⟩
    cases hp with
    | zero => cases hk
    | succ h1 h2 => exact ⟨_, _, rfl, h1, _, h2⟩

theorem opt_matches {a : Re} {w : List Byte} : Matches (opt a) w ↔ w = [] ∨ Matches a w := by
  unfold opt; rw [matches_alt_iff, matches_eps_iff]

def clsSets : Re → List ByteSet
  | .empty => []
  | .eps => []
  | .cls s => [s]
  | .cat a b => clsSets a ++ clsSets b
  | .alt a b => clsSets a ++ clsSets b
  | .star a => clsSets a

theorem pderiv_congr (c c' : Byte) (r : Re) (h : ∀ s ∈ r.clsSets, s.mem c = s.mem c') :
    pderiv c r = pderiv c' r := by
  induction r with
  | empty => rfl
  | eps => rfl
  | cls s => simp only [pderiv]; rw [h s (by simp [clsSets])]
  | cat a b iha ihb | alt a b iha ihb =>
    simp only [clsSets, List.mem_append] at h
    simp only [pderiv, iha fun s hs => h s (.inl hs), ihb fun s hs => h s (.inr hs)]
  | star a iha => simp only [pderiv, iha h]

end Re
end FlexVerif
