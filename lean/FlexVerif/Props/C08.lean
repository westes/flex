/-
  Props/C08.lean — yyless / yyunput / yyinput / matching edit the input stream exactly as
  documented: in the abstract scanner nothing is lost, duplicated or reordered.
  `unread s` is the input not yet consumed of the current buffer.
-/
import FlexVerif.Runtime.AbsProofs
namespace FlexVerif
open AState

def unread (s : AState) : List UInt8 := s.curBuf.pending

theorem unread_setCurBuf {s : AState} {b : ABuf} (h : s.HasCur) : unread (s.setCurBuf b) = b.pending := by
  unfold unread; rw [curBuf_setCurBuf h]

/-- a per-buffer counter is written back with the buffer's other fields as they were -/
theorem unread_addLineno (cfg : Cfg) (s : AState) (d : Int) : unread (s.addLineno cfg d) = unread s := by
  unfold AState.addLineno
  split
  · rfl
  · split
    · cases hasCur_or_setCurBuf_eq s with
      | inl h => rw [unread_setCurBuf h]; rfl
      | inr h => rw [h]
    · rfl

/-- a record update that leaves `bufs` and `cur` alone leaves the unread input alone (for `simp`, which
    meets `{ t with text := … }`, `t.emit …` and the like in this form) -/
theorem unread_update (t : AState) (reg bstack yyin start sstack lineno srcs wraps acts eofDefault eacts eactCounter
    actCounter out halted eofSeen text morePrefix moreFlag rejectList tokInput textValid unfetched : _) :
    unread ⟨t.bufs, reg, t.cur, bstack, yyin, start, sstack, lineno, srcs, wraps, acts, eofDefault, eacts,
      eactCounter, actCounter, out, halted, eofSeen, text, morePrefix, moreFlag, rejectList, tokInput, textValid,
      unfetched⟩ = unread t := rfl

/-- **Matching**: the text handed to the action (after the yymore prefix) followed by what is
    left unread is exactly the input the token was matched on: every byte is consumed once and
    in order, and the trailing context stays unread. -/
theorem match_conserves (M : Matcher) (cfg : Cfg) (s : AState) (inp : List UInt8) (len rule : Nat)
    (p : List UInt8) (h : s.HasCur)
    (hfit : (cfg.yylmax != 0 && decide (p.length + M.fitLen rule len inp ≥ cfg.yylmax)) = false) :
    let s' := beginMatch M cfg s inp len rule p
    s'.text = p ++ inp.take (M.headLen rule len inp) ∧ unread s' = inp.drop (M.headLen rule len inp) ∧
      s'.text.drop p.length ++ unread s' = inp := by
  intro s'
  have ht : s'.text = p ++ inp.take (M.headLen rule len inp) := by
    simp only [s', beginMatch, hfit, Bool.false_eq_true, if_false]
    rw [addLineno_eq]; rfl
  have hu : unread s' = inp.drop (M.headLen rule len inp) := by
    simp only [s', beginMatch, hfit, Bool.false_eq_true, if_false, AState.emit, unread_update, unread_addLineno,
      unread_setCurBuf h]
  exact ⟨ht, hu, by rw [hu, ht, List.drop_left, List.take_append_drop]⟩

theorem less_unread (M : Matcher) (cfg : Cfg) (s : AState) (n : Nat) (h : s.HasCur) (hh : s.halted = false) :
    unread (runAction M cfg s [.less n]).1 =
      s.text.drop (s.morePrefix + n % (s.text.length - s.morePrefix + 1)) ++ unread s := by
  simp only [runAction, hh, Bool.false_eq_true, if_false, AState.emit, unread_update, unread_addLineno,
    unread_setCurBuf h]
  rfl

/-- **yyless(n)**: the first characters stay in yytext, the rest goes back in front of the unread
    input, in order: `yytext ++ unread` is unchanged. -/
theorem less_conserves (M : Matcher) (cfg : Cfg) (s : AState) (n : Nat) (h : s.HasCur)
    (hh : s.halted = false) :
    let s' := (runAction M cfg s [.less n]).1
    s'.text ++ unread s' = s.text ++ unread s ∧ s'.text.length ≤ s.text.length := by
  intro s'
  have ht : s'.text = s.text.take (s.morePrefix + n % (s.text.length - s.morePrefix + 1)) := by
    simp only [s', runAction, hh, Bool.false_eq_true, if_false]; rfl
  rw [ht, less_unread M cfg s n h hh, ← List.append_assoc, List.take_append_drop, List.length_take]
  exact ⟨rfl, Nat.min_le_right ..⟩

/-- **yyunput(c)** makes `c` the next character read -/
theorem unput_conserves (M : Matcher) (cfg : Cfg) (s : AState) (c : Nat) (h : s.HasCur)
    (hh : s.halted = false) :
    unread (runAction M cfg s [.unput c]).1 = UInt8.ofNat c :: unread s := by
  simp only [runAction, hh, Bool.false_eq_true, if_false, unread_update]
  split
  · rw [unread_addLineno, unread_setCurBuf h]; rfl
  · rw [unread_setCurBuf h]; rfl

/-- **yyinput()** consumes and reports exactly the next unread character -/
theorem input_conserves (cfg : Cfg) (s : AState) (fuel : Nat) (h : s.HasCur) (c : UInt8)
    (rest : List UInt8) (hp : unread s = c :: rest) :
    unread (inputOp cfg s (fuel + 1)) = rest ∧
      (inputOp cfg s (fuel + 1)).out = s.out.push s!"in {c.toNat}" := by
  unfold unread at hp
  simp only [inputOp, ensureBuf_of_hasCur h, hp, AState.emit, unread_update]
  split
  · exact ⟨by simp only [unread_addLineno, unread_setCurBuf h], by rw [addLineno_eq, setCurBuf_eq]⟩
  · exact ⟨by simp only [unread_setCurBuf h], by rw [setCurBuf_eq]⟩

end FlexVerif
