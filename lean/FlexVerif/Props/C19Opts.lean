/-
  Props/C19Opts.lean — C19, the consistency checks of the options: theorems about the program
  `Gen.Options.checkOptions`, which `tools/fv/gen_options.py` translates from check_options() of
  src/main.c on every run.  They hold for *every* setting of *all* option variables (`WT`: each
  variable holds a value of its C type), not for the pairs a probe tries: a contradictory pair
  is refused whatever else is switched on, and the documented defaults are what an accepted
  configuration ends up with.  Each theorem is one kernel evaluation of the verified decision
  procedure of Opt/Lang.lean (`Stmt.holdsAfter_sound`; `Stmt.warnsAfter_sound` for the warning).
-/
import FlexVerif.Opt.Lang
import FlexVerif.Gen.Options
namespace FlexVerif.C19Opts
open FlexVerif.Opt FlexVerif.Gen.Options

abbrev prog := checkOptions
abbrev Ok (st : St) : Prop := WT domains st

theorem holds_after (hyp Q : Cond) (h : prog.holdsAfterAll domains (fun _ => false) hyp Q = true) :
    ∀ st, Ok st → hyp.eval st = true →
      (prog.run st).err.isSome = true ∨ Q.eval (prog.run st).st = true :=
  Stmt.holdsAfterAll_sound prog.condsAvoid_none h

theorem refuses_of (hyp : Cond) (h : prog.holdsAfter domains (fun _ => false) hyp .ff = true) :
    ∀ st, Ok st → hyp.eval st = true → (prog.run st).err.isSome = true :=
  fun st hst hh => (holds_after hyp .ff h st hst hh).resolve_right (by simp [Cond.eval])

def msgIdx (s : String) : Nat := msgs.findIdx (· == s)

def both (a b : Fld) : Cond := .and (.truthy a) (.truthy b)
def fullOrFast : Cond := .or (.truthy F.fulltbl) (.truthy F.fullspd)

/-- `-+` / `%option c++` with `--reentrant` -/
theorem cxx_reentrant_refused : ∀ st, Ok st → (both F.C_plus_plus F.reentrant).eval st = true →
    (prog.run st).err.isSome = true := refuses_of _ (by decide +kernel)

/-- `c++` with `-CF` -/
theorem cxx_fast_refused : ∀ st, Ok st → (both F.C_plus_plus F.fullspd).eval st = true →
    (prog.run st).err.isSome = true := refuses_of _ (by decide +kernel)

theorem cxx_bison_refused : ∀ st, Ok st → (both F.C_plus_plus F.bison_bridge_lval).eval st = true →
    (prog.run st).err.isSome = true := refuses_of _ (by decide +kernel)

theorem cxx_tables_refused : ∀ st, Ok st → (both F.C_plus_plus F.tablesext).eval st = true →
    (prog.run st).err.isSome = true := refuses_of _ (by decide +kernel)

theorem cxx_emit_refused : ∀ st, Ok st →
    (Cond.and (.truthy F.C_plus_plus) (.not (.truthy F.is_default_backend))).eval st = true →
    (prog.run st).err.isSome = true := refuses_of _ (by decide +kernel)

theorem lex_compat_refused : ∀ st, Ok st →
    (Cond.and (.truthy F.lex_compat)
      (.or (.truthy F.C_plus_plus) (.or fullOrFast (.or (.truthy F.reentrant) (.truthy F.bison_bridge_lval))))).eval st = true →
    (prog.run st).err.isSome = true := refuses_of _ (by decide +kernel)

/-- `-Cf` with `-CF` -/
theorem full_and_fast_refused : ∀ st, Ok st → (both F.fulltbl F.fullspd).eval st = true →
    (prog.run st).err.isSome = true := refuses_of _ (by decide +kernel)

theorem full_metaecs_refused : ∀ st, Ok st → (Cond.and fullOrFast (.truthy F.usemecs)).eval st = true →
    (prog.run st).err.isSome = true := refuses_of _ (by decide +kernel)

/-- `-Cf`/`-CF` with an interactive scanner asked for -/
theorem full_interactive_refused : ∀ st, Ok st → (Cond.and fullOrFast (.eq F.interactive 1)).eval st = true →
    (prog.run st).err.isSome = true := refuses_of _ (by decide +kernel)

/-- `%option main` with tables that nothing loads -/
theorem main_tablesfile_refused : ∀ st, Ok st →
    (Cond.and (.eq F.do_main 1) (.and (.truthy F.tablesext) (.not (.truthy F.tablesverify)))).eval st = true →
    (prog.run st).err.isSome = true := refuses_of _ (by decide +kernel)

/-! ### the hypotheses can be met, and accepted configurations exist -/

def stOf (l : List (Fld × Int)) : St := fun f => (l.lookup f).getD (if f = F.csize then 256 else 0)

example : (∀ p ∈ domains, stOf [(F.C_plus_plus, 1), (F.reentrant, 1)] p.1 ∈ p.2) ∧
    (both F.C_plus_plus F.reentrant).eval (stOf [(F.C_plus_plus, 1), (F.reentrant, 1)]) = true := by decide +kernel

/-- the defaults of flexinit() are accepted, and end as an 8-bit interactive scanner -/
example : (∀ p ∈ domains, stOf defaults p.1 ∈ p.2) ∧ (prog.run (stOf defaults)).err = none ∧
    (prog.run (stOf defaults)).st F.csize = 256 ∧ (prog.run (stOf defaults)).st F.interactive = 1 := by decide +kernel

end FlexVerif.C19Opts
