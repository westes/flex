/-
  Props/C19SymbolsWired.lean — C19: the symbol wiring table: each m4 symbol is defined exactly when its option variable says so (see Props/C19Symbols.lean).
-/
import FlexVerif.Props.C19Symbols
namespace FlexVerif.C19Opts
open FlexVerif.Opt FlexVerif.Gen.Options

def wiring1 : List (Fld × Cond) := [
  (F.sym_M4_YY_REENTRANT, .truthy F.reentrant),
  (F.sym_M4_MODE_REENTRANT_TEXT_IS_ARRAY, .and (.truthy F.reentrant) (.truthy F.yytext_is_array)),
  (F.sym_M4_YY_MAIN, .eq F.do_main 1),
  (F.sym_M4_MODE_DO_STDINIT, .truthy F.do_stdinit),
  (F.sym_M4_MODE_YYTEXT_IS_ARRAY, .truthy F.yytext_is_array),
  (F.sym_M4_MODE_REAL_FULLSPD, .truthy F.fullspd),
  (F.sym_M4_MODE_REAL_FULLTBL, .truthy F.fulltbl),
  (F.sym_M4_MODE_FULLSPD, .truthy F.fullspd),
  (F.sym_M4_MODE_FIND_ACTION_FULLTBL, .and (.not (.truthy F.fullspd)) (.truthy F.fulltbl)),
  (F.sym_M4_MODE_CPP_USE_READ, .truthy F.use_read),
  (F.sym_M4_MODE_USEMECS, .truthy F.usemecs),
  (F.sym_M4_MODE_USEECS, .truthy F.useecs),
  (F.sym_M4_MODE_YYLINENO, .truthy F.do_yylineno),
  (F.sym_M4_MODE_INTERACTIVE, .eq F.interactive 1),
  (F.sym_M4_MODE_DEBUG, .truthy F.ddebug),
  (F.sym_M4_MODE_YYWRAP, .truthy F.do_yywrap),
  (F.sym_M4_MODE_USER_YYREAD, .truthy F.noyyread),
  (F.sym_M4_MODE_CXX_ONLY, .and (.truthy F.is_default_backend) (.truthy F.C_plus_plus)),
  (F.sym_M4_MODE_C_ONLY, .and (.truthy F.is_default_backend) (.not (.truthy F.C_plus_plus))),
  (F.sym_M4_MODE_TABLESEXT, .truthy F.tablesext),
  (F.sym_M4_MODE_NO_YYINPUT, .truthy F.no_yyinput)]

theorem symbols_wired_1 : ∀ r ∈ wiring1, ∀ st, Ok st →
    (dprog.run st).err.isSome = true ∨ (iffC (.truthy r.1) r.2).eval (dprog.run st).st = true :=
  wired_sound wiring1 (by decide +kernel)

def wiring2 : List (Fld × Cond) := [
  (F.sym_M4_YY_NO_YYPANIC, .truthy F.no_yypanic),
  (F.sym_M4_YY_NO_PUSH_STATE, .truthy F.no_yy_push_state),
  (F.sym_M4_YY_NO_POP_STATE, .truthy F.no_yy_pop_state),
  (F.sym_M4_YY_NO_TOP_STATE, .truthy F.no_yy_top_state),
  (F.sym_M4_YY_NO_YYUNPUT, .truthy F.no_yyunput),
  (F.sym_M4_YY_NO_SCAN_BUFFER, .truthy F.no_yy_scan_buffer),
  (F.sym_M4_YY_NO_SCAN_BYTES, .truthy F.no_yy_scan_bytes),
  (F.sym_M4_YY_NO_SCAN_STRING, .truthy F.no_yy_scan_string),
  (F.sym_M4_YY_NO_GET_EXTRA, .truthy F.no_yyget_extra),
  (F.sym_M4_YY_NO_SET_EXTRA, .truthy F.no_yyset_extra),
  (F.sym_M4_YY_NO_GET_LENG, .truthy F.no_yyget_leng),
  (F.sym_M4_YY_NO_GET_TEXT, .truthy F.no_yyget_text),
  (F.sym_M4_YY_NO_GET_LINENO, .truthy F.no_yyget_lineno),
  (F.sym_M4_YY_NO_SET_LINENO, .truthy F.no_yyset_lineno),
  (F.sym_M4_YY_NO_GET_COLUMN, .truthy F.no_yyget_column),
  (F.sym_M4_YY_NO_SET_COLUMN, .truthy F.no_yyset_column),
  (F.sym_M4_YY_NO_GET_IN, .truthy F.no_yyget_in),
  (F.sym_M4_YY_NO_SET_IN, .truthy F.no_yyset_in),
  (F.sym_M4_YY_NO_GET_OUT, .truthy F.no_yyget_out),
  (F.sym_M4_YY_NO_SET_OUT, .truthy F.no_yyset_out),
  (F.sym_M4_YY_NO_GET_LVAL, .truthy F.no_yyget_lval)]

theorem symbols_wired_2 : ∀ r ∈ wiring2, ∀ st, Ok st →
    (dprog.run st).err.isSome = true ∨ (iffC (.truthy r.1) r.2).eval (dprog.run st).st = true :=
  wired_sound wiring2 (by decide +kernel)

def wiring3 : List (Fld × Cond) := [
  (F.sym_M4_YY_NO_SET_LVAL, .truthy F.no_yyset_lval),
  (F.sym_M4_YY_NO_GET_LLOC, .truthy F.no_yyget_lloc),
  (F.sym_M4_YY_NO_SET_LLOC, .truthy F.no_yyset_lloc),
  (F.sym_M4_YY_NO_FLEX_ALLOC, .truthy F.no_flex_alloc),
  (F.sym_M4_YY_NO_FLEX_REALLOC, .truthy F.no_flex_realloc),
  (F.sym_M4_YY_NO_FLEX_FREE, .truthy F.no_flex_free),
  (F.sym_M4_YY_NO_GET_DEBUG, .truthy F.no_get_debug),
  (F.sym_M4_YY_NO_SET_DEBUG, .truthy F.no_set_debug),
  (F.sym_M4_YY_NO_UNISTD_H, .truthy F.no_unistd),
  (F.sym_M4_YY_ALWAYS_INTERACTIVE, .truthy F.always_interactive),
  (F.sym_M4_YY_NEVER_INTERACTIVE, .truthy F.never_interactive),
  (F.sym_M4_YY_STACK_USED, .truthy F.stack_used),
  (F.sym_M4_MODE_REWRITE, .truthy F.rewrite_v),
  (F.sym_M4_YY_BISON_LVAL, .truthy F.bison_bridge_lval),
  (F.sym__M4_YY_BISON_LLOC, .truthy F.bison_bridge_lloc),
  (F.sym_M4_MODE_YYMORE_USED, .truthy F.yymore_used),
  (F.sym_M4_MODE_USES_REJECT, .truthy F.reject),
  (F.sym_M4_MODE_BOL_NEEDED, .truthy F.bol_needed),
  (F.sym_M4_MODE_VARIABLE_TRAILING_CONTEXT_RULES, .truthy F.variable_trailing_context_rules),
  (F.sym_M4_MODE_GENTABLES, .truthy F.gentables)]

theorem symbols_wired_3 : ∀ r ∈ wiring3, ∀ st, Ok st →
    (dprog.run st).err.isSome = true ∨ (iffC (.truthy r.1) r.2).eval (dprog.run st).st = true :=
  wired_sound wiring3 (by decide +kernel)

end FlexVerif.C19Opts
