/-
  Props/C11StackC99.lean — C11: the buffer stack of the **c99 back end** (`Gen/BufStackC99.lean`, from a
  scanner generated with `%option emit="c99"`; `yyscanner->` dropped, `yy_current_buffer()`, a function
  there, inlined, `yypanic` for YY_FATAL_ERROR).  The programs are the default skeleton's: the theorems of
  `Props/C11Stack.lean` hold of the c99 scanner, and a change to either skeleton alone breaks a `_same`
  theorem here or a theorem there.
-/
import FlexVerif.Gen.BufStackC99
import FlexVerif.Props.C11Stack
namespace FlexVerif.C11StackC99
open FlexVerif.Imp

theorem ensure_same : Gen.BufStackC99.ensure = Gen.BufStack.ensure := rfl
theorem push_same : Gen.BufStackC99.push = Gen.BufStack.push := rfl
theorem pop_same : Gen.BufStackC99.pop = Gen.BufStack.pop := rfl
theorem switch_same : Gen.BufStackC99.switch_ = Gen.BufStack.switch_ := rfl
theorem current_same : Gen.BufStackC99.currentEx = Gen.BufStack.currentEx := rfl
theorem msgs_same : Gen.BufStackC99.msgs = Gen.BufStack.msgs := rfl

def cstep99 (s : State) : C11Stack.Op → State × Outcome
  | .push b => Gen.BufStackC99.push.run (setVar s Gen.BufStack.vArg b)
  | .pop => Gen.BufStackC99.pop.run s
  | .switch b => Gen.BufStackC99.switch_.run (setVar s Gen.BufStack.vArg b)

theorem cstep99_same (s : State) (op : C11Stack.Op) : cstep99 s op = C11Stack.cstep s op := by
  -- the programs are the same terms (what `push_same`, `pop_same`, `switch_same` state), so both sides unfold to the same run
  cases op <;> rfl

def crun99 : List C11Stack.Op → State → State × Bool
  | [], s => (s, true)
  | op :: rest, s =>
    let r := cstep99 s op
    if C11Stack.returns r.2 then crun99 rest r.1 else (r.1, false)

theorem crun99_same : ∀ (ops : List C11Stack.Op) (s : State), crun99 ops s = C11Stack.crun ops s := by
  intro ops
  induction ops with
  | nil => intro _; rfl
  | cons op rest ih => intro s; simp only [crun99, C11Stack.crun, cstep99_same, ih]

/-- **C11, c99 back end**: every sequence of buffer-stack calls of the c99 scanner comes back and
    leaves its stack representing the list machine's -/
theorem stack_refines_c99 (ops : List C11Stack.Op) (s : State) (a : C11Stack.AB) (h : C11Stack.R s a)
    (hok : ∀ op ∈ ops, op.ok = true) :
    (crun99 ops s).2 = true ∧ C11Stack.R (crun99 ops s).1 (ops.foldl C11Stack.AB.step a) := by
  rw [crun99_same]; exact C11Stack.stack_refines ops s a h hok

theorem current_after_c99 (ops : List C11Stack.Op) (hok : ∀ op ∈ ops, op.ok = true) :
    Gen.BufStackC99.currentEx.eval (crun99 ops C11Stack.s0).1 = some (ops.foldl C11Stack.AB.step C11Stack.a0).cur := by
  rw [crun99_same, current_same]; exact C11Stack.current_after ops hok

end FlexVerif.C11StackC99
