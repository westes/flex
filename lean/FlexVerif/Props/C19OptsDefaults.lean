/-
  Props/C19OptsDefaults.lean — C19: the documented defaults (character-set size, interactive or
  batch), the implications of lex compatibility, `%array` overridden for C++, and the shape of every
  accepted configuration — theorems about the regenerated `checkOptions` (see Props/C19Opts.lean).
-/
import FlexVerif.Props.C19Opts
namespace FlexVerif.C19Opts
open FlexVerif.Opt FlexVerif.Gen.Options

def sevenBitCase : Cond := .and fullOrFast (.not (.truthy F.useecs))

/-- no `-7`/`-8`: a 7-bit scanner exactly for full/fast tables *without* equivalence classes … -/
theorem csize_default_7bit : ∀ st, Ok st → (Cond.and (.eq F.csize (-1)) sevenBitCase).eval st = true →
    (prog.run st).err.isSome = true ∨ (Cond.eq F.csize 128).eval (prog.run st).st = true :=
  holds_after _ _ (by decide +kernel)

/-- … and an 8-bit scanner otherwise (`-Cfe`, `-CFe` and all compressed tables) -/
theorem csize_default_8bit : ∀ st, Ok st → (Cond.and (.eq F.csize (-1)) (.not sevenBitCase)).eval st = true →
    (prog.run st).err.isSome = true ∨ (Cond.eq F.csize 256).eval (prog.run st).st = true :=
  holds_after _ _ (by decide +kernel)

/-- `-7` / `-8` given: kept -/
theorem csize_explicit_kept (k : Int) (hk : k = 128 ∨ k = 256) : ∀ st, Ok st → (Cond.eq F.csize k).eval st = true →
    (prog.run st).err.isSome = true ∨ (Cond.eq F.csize k).eval (prog.run st).st = true := by
  rcases hk with rfl | rfl
  · exact holds_after _ _ (by decide +kernel)
  · exact holds_after _ _ (by decide +kernel)

/-- neither `-I` nor `-B`: interactive unless full/fast tables -/
theorem interactive_default : ∀ st, Ok st → (Cond.eq F.interactive (-1)).eval st = true →
    (prog.run st).err.isSome = true ∨
      (Cond.or (.and fullOrFast (.eq F.interactive 0)) (.and (.not fullOrFast) (.eq F.interactive 1))).eval (prog.run st).st = true :=
  holds_after _ _ (by decide +kernel)

theorem lex_compat_implies : ∀ st, Ok st → (Cond.truthy F.lex_compat).eval st = true →
    (prog.run st).err.isSome = true ∨
      (Cond.and (.eq F.yytext_is_array 1) (.and (.eq F.do_yylineno 1) (.eq F.use_read 0))).eval (prog.run st).st = true :=
  holds_after _ _ (by decide +kernel)

/-- `%array` with `c++`: overridden with a warning, not refused for that reason -/
theorem cxx_array_overridden : ∀ st, Ok st → (both F.C_plus_plus F.yytext_is_array).eval st = true →
    (prog.run st).err.isSome = true ∨
      (Cond.not (.truthy F.yytext_is_array)).eval (prog.run st).st = true :=
  holds_after _ _ (by decide +kernel)

theorem cxx_array_warns : ∀ st, Ok st → (both F.C_plus_plus F.yytext_is_array).eval st = true →
    (prog.run st).err.isSome = true ∨
      (prog.run st).warns.contains (msgIdx "%array incompatible with -+ option") = true :=
  Stmt.warnsAfter_sound (by decide +kernel)

def Accepted : Cond :=
  .and (.not (both F.C_plus_plus F.reentrant))
  (.and (.not (both F.C_plus_plus F.yytext_is_array))
  (.and (.not (both F.C_plus_plus F.fullspd))
  (.and (.not (both F.fulltbl F.fullspd))
  (.and (.or (.not fullOrFast) (.and (.eq F.interactive 0) (.not (.truthy F.usemecs))))
  (.and (.or (.eq F.csize 128) (.eq F.csize 256))
        (.or (.eq F.interactive 0) (.eq F.interactive 1)))))))

theorem accepted_consistent : ∀ st, Ok st →
    (prog.run st).err.isSome = true ∨ Accepted.eval (prog.run st).st = true := by
  intro st hst
  exact holds_after .tt _ (by decide +kernel) st hst rfl

end FlexVerif.C19Opts
