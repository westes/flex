/-
  Props/C11Stack.lean — C11: the buffer-stack functions of a generated scanner (`Gen/BufStack.lean`,
  translated by `tools/fv/gen_bufstack.py`) against a stack of buffer handles with the current buffer
  on top; the growth by 8 slots and the zeroing of fresh slots included.
-/
import FlexVerif.Imp.Lemmas
import FlexVerif.Gen.BufStack
namespace FlexVerif.C11Stack
open FlexVerif.Imp FlexVerif.Gen.BufStack

/-- the specification: the buffers below the current one (bottom first), the current one (0: none),
    the buffers deleted so far -/
structure AB where
  below : List Int := []
  cur : Int := 0
  deleted : List Int := []

/-- the code's state represents the list machine's: before the first `yyensure_buffer_stack()` there is no array and no buffer;
    after it `yy_buffer_stack[0 … yy_buffer_stack_top)` are the buffers below, the slot at `yy_buffer_stack_top` holds the
    current one (0: none) and lies inside the `yy_buffer_stack_max` slots; the calls logged are the deletions -/
structure R (s : State) (a : AB) : Prop where
  log : s.log = a.deleted.map fun b => (fDelete, b)
  nonzero : ∀ b ∈ a.below, b ≠ 0
  curzero : a.cur = 0 → a.below = []
  shape : (s.vars vStack = 0 ∧ s.arr = [] ∧ a.below = [] ∧ a.cur = 0) ∨
          (s.vars vStack ≠ 0 ∧ s.vars vMax = s.arr.length ∧ s.vars vTop = a.below.length ∧
            a.below.length < s.arr.length ∧ s.arr.take a.below.length = a.below ∧
            s.arr[a.below.length]? = some a.cur)

@[simp] theorem setVar_arr (s : State) (x : Nat) (v : Int) : (setVar s x v).arr = s.arr := rfl
@[simp] theorem setVar_log (s : State) (x : Nat) (v : Int) : (setVar s x v).log = s.log := rfl

theorem current_refines {s : State} {a : AB} (h : R s a) : currentEx.eval s = some a.cur := by
  refine (eval_cond_some rfl).trans ?_
  rcases h.shape with ⟨h0, _, _, hc⟩ | ⟨h1, _, ht, _, _, hg⟩
  · rw [show s.vars 0 = 0 from h0, hc]; rfl
  · exact (if_pos (bne_iff_ne.mpr h1)).trans (eval_idx_get rfl ht hg)

theorem R.setArg {s : State} {a : AB} (h : R s a) (x : Int) : R (setVar s vArg x) a :=
  { h with }

theorem R.logged {s : State} {a : AB} (h : R s a) (b : Int) :
    R { s with log := s.log ++ [(fDelete, b)] } { a with deleted := a.deleted ++ [b] } :=
  { h with log := by simp [h.log] }

theorem R.setCur {s : State} {a : AB} (h : R s a) (hs : s.vars vStack ≠ 0) {b : Int} (hb : b = 0 → a.below = []) :
    R { s with arr := s.arr.set a.below.length b } { a with cur := b } := by
  obtain ⟨h1, hm, ht, hlt, htk, hg⟩ := h.shape.resolve_left fun h0 => hs h0.1
  exact { h with curzero := hb, shape := .inr ⟨h1, by simpa using hm, ht, by simpa using hlt,
    (List.take_set_of_le (Nat.le_refl _)).trans htk, List.getElem?_set_self hlt⟩ }

/-- a function that falls off its end or returns, seen by its caller -/
theorem came_back {p : St} {s : State} {o : Outcome} {Q : State → Prop} (ho : o = .normal ∨ o = .returned 0)
    (h : Runs p s o Q) : ∃ s' o, p.run s = (s', o) ∧ (o = .normal ∨ o = .returned 0) ∧ Q s' :=
  let ⟨s', hr, hq⟩ := h; ⟨s', o, hr, ho, hq⟩

/-- after `yyensure_buffer_stack()`: the stack exists and has room for one more push -/
structure Ready (s0 s : State) (a : AB) : Prop where
  rep : R s a
  alloc : s.vars vStack ≠ 0
  -- a push moves up one slot only if there is a current buffer; without one it fills the top slot, and that is all the room
  -- the one-slot stack of the first call has
  room : a.below.length + 1 < s.arr.length ∨ a.cur = 0
  arg : s.vars vArg = s0.vars vArg

theorem ensure_spec {s : State} {a : AB} (h : R s a) :
    ∃ s' o, ensure.run s = (s', o) ∧ (o = .normal ∨ o = .returned 0) ∧ Ready s s' a := by
  rcases h.shape with ⟨h0, harr, hb, hc⟩ | ⟨h1, (hm : s.vars 2 = _), (ht : s.vars 1 = _), hlt, htk, hg⟩
  · -- first call: one slot, zeroed
    obtain ⟨below, cur, deleted⟩ := a
    subst hb hc
    refine came_back (.inr rfl) (.seq_stop (.ite_pos rfl h0 (.seq (.assign rfl (.seq (.seq (.alloc (k := 1) harr rfl (.assign rfl
      (.seq (.ite_neg rfl Int.one_ne_zero (.skip (.seq (.zero_grown (old := []) (c' := 1) rfl rfl rfl rfl rfl (.seq (.assign rfl
      (.seq (.assign rfl (.ret rfl ?_))))))))))))))))) nofun)
    exact ⟨{ h with shape := .inr ⟨Int.one_ne_zero, rfl, rfl, Nat.one_pos, rfl, rfl⟩ }, Int.one_ne_zero, .inr rfl, rfl⟩
  · by_cases hroom : a.below.length + 1 < s.arr.length
    · -- room left: nothing happens
      exact came_back (.inl rfl) (.seq (.ite_neg rfl h1 (.skip (.ite_neg rfl (by omega) (.skip ⟨h, h1, .inl hroom, rfl⟩)))))
    · -- the top slot is the last one: eight more, zeroed
      refine came_back (.inl rfl) (.seq (.ite_neg rfl h1 (.skip (.ite_pos rfl (by omega) (.seq (.assign rfl (.seq
        (.assign (v := s.vars 2 + 8) rfl (.seq (.seq (.growBy (c := 8) ?_ (.assign rfl (.seq (.ite_neg rfl Int.one_ne_zero (.skip
        (.seq (.zero_grown (old := s.arr) (c' := 8) rfl rfl hm rfl rfl (.assign (v := s.vars 2 + 8) rfl ?_))))))))))))))))))
      · -- `num_to_alloc * sizeof(struct yy_buffer_state*)`, in slots
        exact congrArg some ((Int.mul_tdiv_cancel _ (by decide)).trans (congrArg (· + 8) hm))
      · refine ⟨{ h with shape := .inr ⟨Int.one_ne_zero, ?_, ht, Nat.lt_of_succ_lt ?room,
          (List.take_append_of_le_length (Nat.le_of_lt hlt)).trans htk, (List.getElem?_append_left hlt).trans hg⟩ },
          Int.one_ne_zero, .inl ?room, rfl⟩
        case room => exact Nat.lt_of_le_of_lt hlt (by simp)
        simp [vMax, hm]

theorem scope_ensure {s : State} {a : AB} (h : R s a) :
    ∃ s', (St.scope ensure).run s = (s', .normal) ∧ Ready s s' a := by
  obtain ⟨s', o, hrun, ho, hr⟩ := ensure_spec h
  refine ⟨s', ?_, hr⟩
  simp only [St.run, hrun]
  rcases ho with rfl | rfl <;> rfl

theorem push_refines {s : State} {a : AB} (h : R s a) (b : Int) (hb : b ≠ 0) :
    ∃ s', push.run (setVar s vArg b) = (s', .normal) ∧
      R s' (if a.cur = 0 then { a with cur := b } else { a with below := a.below ++ [a.cur], cur := b }) := by
  refine Runs.seq (.ite_neg rfl hb (.skip (.seq (.mono (scope_ensure (h.setArg b)) fun s1 hr => ?_))))
  have harg : s1.vars 5 = b := hr.arg
  have hcur := current_refines hr.rep
  obtain ⟨h1, hm, ht, hlt, htk, hg⟩ := hr.rep.shape.resolve_left fun h0 => hr.alloc h0.1
  refine .seq (.ite_same (eval_not_some (eval_eq_some hcur rfl)) (.skip ?_))
  by_cases hc : a.cur = 0
  · -- no current buffer: the new one takes the top slot
    rw [if_pos hc]
    exact .seq (.ite_false (hcur.trans (congrArg some hc)) (.skip
      (.store rfl (congrArg some harg) ht hlt (hr.rep.setCur hr.alloc fun hz => absurd hz hb))))
  · -- the current buffer stays below the new one
    have hroom : a.below.length + 1 < s1.arr.length := hr.room.resolve_right hc
    rw [if_neg hc]
    have ht' : s1.vars 1 + 1 = (a.below.length + 1 : Nat) := by simpa [vTop] using ht
    refine .seq (.ite_true hcur hc (.assign rfl (.store (n := a.below.length + 1) rfl (congrArg some harg) ht' hroom ?_)))
    refine { hr.rep with
      nonzero := fun x hx => (List.mem_append.mp hx).elim (h.nonzero x) fun hx => List.mem_singleton.mp hx ▸ hc
      curzero := fun hz => absurd hz hb
      shape := .inr ⟨h1, ?_, ?_, ?_, ?_, ?_⟩ }
    · simpa [setVar_vars, vMax] using hm
    · simpa [vTop] using ht'
    · simpa using hroom
    · rw [List.length_append]
      exact (List.take_set_of_le (Nat.le_refl _)).trans (take_concat_iff.mpr ⟨htk, hg⟩)
    · rw [List.length_append]
      exact List.getElem?_set_self hroom

theorem switch_refines {s : State} {a : AB} (h : R s a) (b : Int) (hb : b ≠ 0) :
    ∃ s' o, switch_.run (setVar s vArg b) = (s', o) ∧ (o = .normal ∨ o = .returned 0) ∧ R s' { a with cur := b } := by
  by_cases hsame : a.cur = b
  · -- already current
    subst hsame
    exact came_back (.inr rfl) (.seq (.mono (scope_ensure (h.setArg _)) fun s1 hr =>
      .seq_stop (.ite_pos (eval_eq_some (current_refines hr.rep) rfl) hr.arg.symm (.ret rfl hr.rep)) nofun))
  · refine came_back (.inl rfl) (.seq (.mono (scope_ensure (h.setArg b)) fun s1 hr => ?_))
    have hcur := current_refines hr.rep
    obtain ⟨_, _, ht, hlt, _, _⟩ := hr.rep.shape.resolve_left fun h0 => hr.alloc h0.1
    exact .seq (.ite_neg (eval_eq_some hcur rfl) (fun e => hsame (e.trans hr.arg)) (.skip (.seq (.ite_same hcur (.skip
      (.store rfl (congrArg some hr.arg) ht hlt (hr.rep.setCur hr.alloc fun hz => absurd hz hb)))))))

def AB.pop (a : AB) : AB :=
  if a.cur = 0 then a else
    match a.below.getLast? with
    | none => { a with cur := 0, deleted := a.deleted ++ [a.cur] }
    | some t => { below := a.below.dropLast, cur := t, deleted := a.deleted ++ [a.cur] }

theorem pop_refines {s : State} {a : AB} (h : R s a) :
    ∃ s' o, pop.run s = (s', o) ∧ (o = .normal ∨ o = .returned 0) ∧ R s' a.pop := by
  have hcur := current_refines h
  by_cases hc : a.cur = 0
  · rw [AB.pop, if_pos hc]
    exact came_back (.inr rfl) (.seq_stop (.ite_pos (eval_eq_some hcur rfl) hc (.ret rfl h)) nofun)
  obtain ⟨h1, hm, ht, hlt, htk, hg⟩ := h.shape.resolve_left fun h0 => hc h0.2.2.2
  have hl := h.logged a.cur
  -- the last statement only looks at the new current buffer, which is there once `R` holds again
  refine came_back (.inl rfl) (.seq (.ite_neg (eval_eq_some hcur rfl) hc (.skip (.seq (.call hcur
    (.seq (.store rfl rfl ht hlt (.seq (.mono (Q := (R · a.pop)) ?_ fun _ hR =>
      .ite_same (eval_not_some (eval_eq_some (current_refines hR) rfl)) (.skip hR))))))))))
  rcases List.eq_nil_or_concat a.below with he | ⟨rest, t, hs⟩
  · -- the last buffer goes: no current buffer any more
    have hpop : a.pop = { a with cur := 0, deleted := a.deleted ++ [a.cur] } := by simp [AB.pop, hc, he]
    exact hpop ▸ .ite_neg rfl (show ¬ 0 < s.vars 1 by simp [show s.vars 1 = _ from ht, he]) (.skip
      (hl.setCur h1 fun _ => he))
  · -- the buffer below becomes current again
    rw [List.concat_eq_append] at hs
    have hpop : a.pop = { below := rest, cur := t, deleted := a.deleted ++ [a.cur] } := by simp [AB.pop, hc, hs]
    rw [hs, List.length_append, List.length_singleton] at ht hlt htk ⊢
    obtain ⟨htk', hgt⟩ := take_concat_iff.mp htk
    refine hpop ▸ .ite_pos rfl (show 0 < s.vars vTop from ht ▸ Int.natCast_succ_pos _) (.assign rfl ?_)
    refine { hl with
      nonzero := fun x hx => h.nonzero x (hs ▸ List.mem_append_left _ hx)
      curzero := fun hz => absurd hz (h.nonzero t (by simp [hs]))
      shape := .inr ⟨h1, ?_, ?_, ?_, (List.take_set_of_le (Nat.le_succ _)).trans htk',
        (List.getElem?_set_ne (Nat.succ_ne_self _)).trans hgt⟩ }
    · simpa [setVar_vars, vMax] using hm
    · show s.vars vTop + -1 = rest.length
      rw [ht]; exact Int.add_neg_cancel_right (rest.length : Int) 1
    · simpa using Nat.lt_of_succ_lt hlt

inductive Op
  | push (b : Int)
  | pop
  | switch (b : Int)
deriving Repr

/-- the calls the manual allows: the argument is a buffer -/
def Op.ok : Op → Bool
  | .push b => b != 0
  | .pop => true
  | .switch b => b != 0

def AB.step (a : AB) : Op → AB
  | .push b => if a.cur = 0 then { a with cur := b } else { a with below := a.below ++ [a.cur], cur := b }
  | .pop => a.pop
  | .switch b => { a with cur := b }

def cstep (s : State) : Op → State × Outcome
  | .push b => push.run (setVar s vArg b)
  | .pop => pop.run s
  | .switch b => switch_.run (setVar s vArg b)

def returns : Outcome → Bool
  | .normal => true
  | .returned _ => true
  | _ => false

def crun : List Op → State → State × Bool
  | [], s => (s, true)
  | op :: rest, s =>
    let r := cstep s op
    if returns r.2 then crun rest r.1 else (r.1, false)

theorem returns_of_came_back {p : St} {s : State} {Q : State → Prop}
    (h : ∃ s' o, p.run s = (s', o) ∧ (o = .normal ∨ o = .returned 0) ∧ Q s') : returns (p.run s).2 = true ∧ Q (p.run s).1 := by
  obtain ⟨s', o, hrun, ho, hq⟩ := h
  rw [hrun]
  rcases ho with rfl | rfl <;> exact ⟨rfl, hq⟩

theorem step_refines {s : State} {a : AB} (h : R s a) (op : Op) (hok : op.ok = true) :
    returns (cstep s op).2 = true ∧ R (cstep s op).1 (a.step op) := by
  cases op with
  | push b => exact returns_of_came_back (came_back (.inl rfl) (push_refines h b (bne_iff_ne.mp hok)))
  | pop => exact returns_of_came_back (pop_refines h)
  | switch b => exact returns_of_came_back (switch_refines h b (bne_iff_ne.mp hok))

/-- **C11, buffer stack**: every sequence of yypush_buffer_state / yypop_buffer_state /
    yy_switch_to_buffer calls (with buffers as arguments) comes back — no fatal error, no access to
    `yy_buffer_stack[]` out of bounds — and leaves the code's stack representing the list machine's -/
theorem stack_refines : ∀ (ops : List Op) (s : State) (a : AB), R s a → (∀ op ∈ ops, op.ok = true) →
    (crun ops s).2 = true ∧ R (crun ops s).1 (ops.foldl AB.step a) := by
  intro ops
  induction ops with
  | nil => intro s a h _; exact ⟨rfl, h⟩
  | cons op rest ih =>
    intro s a h hok
    obtain ⟨hr, hR⟩ := step_refines h op (hok op (List.mem_cons_self ..))
    simp only [crun, hr, if_true, List.foldl_cons]
    exact ih _ _ hR (fun o ho => hok o (List.mem_cons_of_mem _ ho))

def s0 : State := { vars := fun _ => 0, arr := [], log := [] }
def a0 : AB := {}

theorem R_init : R s0 a0 := ⟨rfl, nofun, fun _ => rfl, Or.inl ⟨rfl, rfl, rfl, rfl⟩⟩

theorem current_after (ops : List Op) (hok : ∀ op ∈ ops, op.ok = true) :
    currentEx.eval (crun ops s0).1 = some (ops.foldl AB.step a0).cur :=
  current_refines (stack_refines ops s0 a0 R_init hok).2

/-- the buffers handed to yy_delete_buffer are exactly those the list machine popped, in order -/
theorem deleted_after (ops : List Op) (hok : ∀ op ∈ ops, op.ok = true) :
    (crun ops s0).1.log = (ops.foldl AB.step a0).deleted.map fun b => (fDelete, b) :=
  (stack_refines ops s0 a0 R_init hok).2.log

/-- LIFO at the level of the specification: push then pop deletes the pushed buffer and restores the rest -/
theorem push_pop (a : AB) (b : Int) (hb : b ≠ 0) (hc : a.cur ≠ 0) :
    ((a.step (.push b)).step .pop).cur = a.cur ∧ ((a.step (.push b)).step .pop).below = a.below ∧
      ((a.step (.push b)).step .pop).deleted = a.deleted ++ [b] := by
  simp [AB.step, AB.pop, hc, hb]

/-- the premises can be met: ten pushes (the stack array grows from 1 to 9 to 17 slots), pops, a switch -/
example : (crun ((List.range 10).map (fun i => Op.push (Int.ofNat i + 1)) ++ [.pop, .pop, .switch 77, .pop]) s0).2 = true ∧
    currentEx.eval (crun ((List.range 10).map (fun i => Op.push (Int.ofNat i + 1)) ++ [.pop, .pop, .switch 77, .pop]) s0).1 = some 7 ∧
    (crun ((List.range 10).map (fun i => Op.push (Int.ofNat i + 1)) ++ [.pop, .pop, .switch 77, .pop]) s0).1.log = [(0, 10), (0, 9), (0, 77)] := by
  decide

end FlexVerif.C11Stack
