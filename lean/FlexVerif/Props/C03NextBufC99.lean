/-
  Props/C03NextBufC99.lean — C03 / C10 / C13: yy_get_next_buffer() of the **c99 back end**, translated by
  `tools/fv/gen_nextbuf.py` from a scanner generated with `%option emit="c99"` (`Gen/NextBufC99.lean`;
  `yyscanner->` dropped, the current buffer written `yy_buffer_stack[yy_buffer_stack_top]` there, `yytext_r` for
  `yytext_ptr`, `yy_more_len` for YY_MORE_ADJ, `yyread()` for YY_INPUT).  It differs from the default skeleton's in
  moving the unfinished token with `memmove` (statement `move`) instead of a loop and in the spelling of one test;
  the rest — `fill` and `fin` of `C03NextBuf.lean` — is the same text, so `Correct.of_pieces` applies once memmove
  is shown to move the token.
-/
import FlexVerif.Gen.NextBufC99
import FlexVerif.Props.C03NextBuf

namespace FlexVerif.C03NextBufC99
open FlexVerif.Imp FlexVerif.C03NextBuf

def g2' : St := .ite (.not (.var 5))
  (.ite (.eq (.sub (.sub (.var 0) (.var 1)) (.var 9)) (.lit 1)) (.ret (.lit 1)) (.ret (.lit 2))) .skip
def mv' : St := .ite (.lt (.lit 0) (.var 12)) (.move (.var 10) (.var 11) (.mul (.var 12) (.lit 1))) .skip

theorem nextBuf99_shape :
    Gen.NextBufC99.nextBuf = .seq a1 (.seq a2 (.seq g1 (.seq g2' (.seq a3 (.seq mv' (.seq fill fin)))))) := rfl

theorem mv'_moves : Moves mv' := by
  intro s hP
  obtain ⟨hk, hkle⟩ := hP.ntm_range
  have := hP.len; have := hP.t_nn
  have hv : ∀ y, y ≠ 10 → y ≠ 11 → y ≠ 12 → y ≠ 13 →
      (setVar (setVar (setVar s 10 0) 11 (s.vars 1)) 12 (ntm s)).vars y = s.vars y := fun y h0 h1 h2 _ => by
    simp [Imp.setVar_vars, h0, h1, h2]
  by_cases hz : 0 < ntm s
  · exact ⟨_, Runs.run_eq (.ite_pos rfl hz (.move rfl rfl rfl
        (show 0 ≤ (0 : Int) ∧ 0 ≤ s.vars 1 ∧ 0 ≤ ntm s * 1 ∧ (0 : Int).toNat + (ntm s * 1).toNat ≤ s.arr.length ∧
          (s.vars 1).toNat + (ntm s * 1).toNat ≤ s.arr.length by omega) rfl)),
      .of_arr hP hv rfl (by simp [Imp.setVar_vars]) rfl⟩
  · have h0 : ntm s = 0 := by omega
    exact ⟨_, Runs.run_eq (.ite_neg rfl hz (.skip rfl)), .of_arr hP hv rfl (by simp [h0]) rfl⟩

/-- **the c99 skeleton's yy_get_next_buffer() meets the same specification** -/
theorem nextBuf99_correct : Correct Gen.NextBufC99.nextBuf := nextBuf99_shape ▸ .of_pieces (fun _ => rfl) mv'_moves

theorem never_out_of_bounds_c99 (s : State) (hP : Pre s) :
    (Gen.NextBufC99.nextBuf.run s).2 ≠ .oob ∧ (Gen.NextBufC99.nextBuf.run s).2 ≠ .fuel :=
  nextBuf99_correct.never_out_of_bounds s hP

theorem eof_only_when_reader_dry_c99 (s : State) (hP : Pre s) (h5 : s.vars 5 ≠ 0) (h6 : s.vars 6 ≠ 2) (v : Int)
    (hret : (Gen.NextBufC99.nextBuf.run s).2 = .returned v) (hv : v ≠ 0) : s.vars inLen ≤ 0 :=
  nextBuf99_correct.eof_only_when_reader_dry s hP h5 h6 v hret hv

example : (Gen.NextBufC99.nextBuf.run sEx).2 = .returned 0 ∧ (Gen.NextBufC99.nextBuf.run sEx).1.arr = [98, 99, 120, 0, 0, 0] := by
  decide

end FlexVerif.C03NextBufC99
