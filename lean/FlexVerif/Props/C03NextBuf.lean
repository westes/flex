/-
  Props/C03NextBuf.lean — C03 / C10 / C13, yy_get_next_buffer(): theorems about the program of
  `Gen/NextBuf.lean`, which `tools/fv/gen_nextbuf.py` translates from the `yy_get_next_buffer()` of a
  scanner flex has just generated.  The character buffer is an array of `yy_buf_size + 2` cells, every
  `char *` an offset into it; `YY_INPUT` is a reader outside the model that is asked for at most `max`
  bytes and delivers what it has, up to that many.  Which variable is which (`0 = yy_c_buf_p`, …) is listed at
  the head of `Gen/NextBuf.lean`.
-/
import FlexVerif.Imp.Lemmas
import FlexVerif.Gen.NextBuf

namespace FlexVerif.C03NextBuf
open FlexVerif.Imp FlexVerif.Gen.NextBuf

theorem setVar_vars (s : State) (x y : Nat) (v : Int) : (setVar s x v).vars y = if y = x then v else s.vars y := rfl
@[simp] theorem setVar_arr (s : State) (x : Nat) (v : Int) : (setVar s x v).arr = s.arr := rfl
@[simp] theorem setVar_log (s : State) (x : Nat) (v : Int) : (setVar s x v).log = s.log := rfl

def a1 : St := .assign 10 (.lit 0)                                      -- dest = buf
def a2 : St := .assign 11 (.var 1)                                      -- source = yytext_ptr
-- `g1`: yy_c_buf_p is past the second end mark ("end of buffer missed"); `g2`: if ( yy_fill_buffer == 0 ) return END_OF_FILE (only
-- the end mark, after the yymore() prefix, was matched) or LAST_MATCH
def g1 : St := .ite (.lt (.add (.var 2) (.lit 1)) (.var 0)) (.fatal 0) .skip
def g2 : St := .ite (.eq (.var 5) (.lit 0))
  (.ite (.eq (.sub (.sub (.var 0) (.var 1)) (.var 9)) (.lit 1)) (.ret (.lit 1)) (.ret (.lit 2))) .skip
def a3 : St := .assign 12 (.sub (.sub (.var 0) (.var 1)) (.lit 1))      -- number_to_move
def mvCond : Ex := .lt (.var 13) (.var 12)
def mvBody : St :=
  .seq (.seq (.store (.var 10) (.idx (.var 11))) (.seq (.assign 10 (.add (.var 10) (.lit 1))) (.assign 11 (.add (.var 11) (.lit 1)))))
       (.assign 13 (.add (.var 13) (.lit 1)))
def mv : St := .seq (.assign 13 (.lit 0)) (.while_ mvCond mvBody)
def eofp : St := .seq (.assign 2 (.lit 0)) (.assign 3 (.var 2))
def grCond : Ex := .le (.var 15) (.lit 0)
def grBody : St :=
  .seq (.assign 16 (.sub (.var 0) (.lit 0)))
  (.seq (.ite (.var 7)
          (.seq (.assign 17 (.mul (.var 4) (.lit 2)))
            (.seq (.ite (.le (.var 17) (.lit 0)) (.assign 4 (.add (.var 4) (.div (.var 4) (.lit 8)))) (.assign 4 (.mul (.var 4) (.lit 2))))
              (.seq (.growTo (.add (.var 4) (.lit 2))) (.assign 8 (.lit 1)))))
          (.assign 8 (.lit 0)))
  (.seq (.ite (.eq (.var 8) (.lit 0)) (.fatal 1) .skip)
  (.seq (.assign 0 (.var 16)) (.assign 15 (.sub (.sub (.var 4) (.var 12)) (.lit 1))))))
def rdTail : St :=
  .seq (.ite (.lt (.var 18) (.var 15)) (.assign 15 (.var 18)) .skip)
    (.seq (.read (.var 12) (.var 15) 2) (.assign 3 (.var 2)))
def rd : St := .seq (.assign 15 (.sub (.sub (.var 4) (.var 12)) (.lit 1))) (.seq (.while_ grCond grBody) rdTail)
def fill : St := .ite (.eq (.var 6) (.lit 2)) eofp rd
def fin : St :=
  .seq (.ite (.eq (.var 2) (.lit 0))
          (.ite (.eq (.var 12) (.var 9)) (.seq (.assign 14 (.lit 1)) (.call 0 (.lit 0))) (.seq (.assign 14 (.lit 2)) (.assign 6 (.lit 2))))
          (.assign 14 (.lit 0)))
  (.seq (.ite (.lt (.var 4) (.add (.var 2) (.var 12)))
          (.seq (.assign 17 (.add (.add (.add (.var 2) (.var 12)) (.div (.var 2) (.lit 2))) (.lit 2)))
            (.seq (.seq (.growTo (.var 17)) (.assign 8 (.lit 1)))
              (.seq (.ite (.eq (.var 8) (.lit 0)) (.fatal 2) .skip) (.assign 4 (.sub (.var 17) (.lit 2))))))
          .skip)
  (.seq (.assign 2 (.add (.var 2) (.var 12)))
  (.seq (.assign 3 (.var 2))
  (.seq (.store (.var 2) (.lit 0))
  (.seq (.store (.add (.var 2) (.lit 1)) (.lit 0))
  (.seq (.assign 1 (.lit 0)) (.ret (.var 14))))))))

/-- the translated function is made of these pieces, in this order (a change to the source shows here) -/
theorem nextBuf_shape :
    nextBuf = .seq a1 (.seq a2 (.seq g1 (.seq g2 (.seq a3 (.seq mv (.seq fill fin)))))) := rfl

/-- `k` rounds of `*(dest++) = *(source++)` with dest = i, source = t + i -/
def moveFrom (arr : List Int) (t : Nat) : Nat → Nat → List Int
  | _, 0 => arr
  | i, k + 1 => moveFrom (arr.set i (arr.getD (t + i) 0)) t (i + 1) k

theorem moveFrom_length (arr : List Int) (t i k : Nat) : (moveFrom arr t i k).length = arr.length := by
  induction k generalizing arr i with
  | zero => rfl
  | succ k ih => simp [moveFrom, ih]

/-- the copy runs upwards and the destination is not above the source, so no cell is read after it was
    overwritten: cells `i … i+k-1` get the old cells `t+i … t+i+k-1`, the rest stays -/
theorem moveFrom_get (arr : List Int) (t i k : Nat) (h : t + i + k ≤ arr.length) (j : Nat) :
    (moveFrom arr t i k)[j]? = if i ≤ j ∧ j < i + k then arr[t + j]? else arr[j]? := by
  induction k generalizing arr i with
  | zero => exact (if_neg fun c => Nat.lt_irrefl _ (Nat.lt_of_lt_of_le c.2 c.1)).symm
  | succ k ih =>
    have hti : t + i < arr.length := Nat.lt_of_lt_of_le (Nat.lt_add_of_pos_right k.succ_pos) h
    rw [moveFrom, ih _ _ (by rw [List.length_set]; omega)]
    by_cases h2 : j = i
    · subst h2
      rw [if_neg (fun c => Nat.lt_irrefl _ c.1), if_pos ⟨Nat.le_refl _, Nat.lt_add_of_pos_right k.succ_pos⟩,
        List.getElem?_set_self (Nat.lt_of_le_of_lt (Nat.le_add_left ..) hti), List.getD_eq_getElem?_getD,
        List.getElem?_eq_getElem hti]
      rfl
    · rw [List.getElem?_set_ne (Ne.symm h2)]
      exact ite_congr (propext (by omega)) (fun c => List.getElem?_set_ne (by omega)) fun _ => rfl

theorem moveFrom_eq (arr : List Int) (t m : Nat) (h : t + m ≤ arr.length) :
    moveFrom arr t 0 m = (arr.drop t).take m ++ arr.drop m := by
  apply List.ext_getElem?
  intro j
  rw [moveFrom_get arr t 0 m h, List.getElem?_append, (moved_front arr h).1, List.getElem?_take, List.getElem?_drop,
    List.getElem?_drop, Nat.zero_add]
  by_cases hj : j < m
  · rw [if_pos ⟨Nat.zero_le j, hj⟩, if_pos hj, if_pos hj]
  · rw [if_neg (fun c => hj c.2), if_neg hj, Nat.add_sub_cancel' (Nat.le_of_not_lt hj)]

/-- the state after `k` rounds of `*(dest++) = *(source++)` entered with the counter and `dest` at `i`, `source` at `t + i` (`mv_loop`) -/
def afterMove (s : State) (t i k : Nat) : State :=
  { s with vars := fun y => if y = 13 then (i : Int) + k else if y = 10 then (i : Int) + k
                            else if y = 11 then (t : Int) + ((i : Int) + k) else s.vars y,
           arr := moveFrom s.arr t i k }

theorem mvBody_run {s : State} {t i : Nat} (h13 : s.vars 13 = i) (h10 : s.vars 10 = i) (h11 : s.vars 11 = (t : Int) + i)
    (hti : t + i < s.arr.length) :
    mvBody.run s = (setVar (setVar (setVar { s with arr := s.arr.set i (s.arr.getD (t + i) 0) } 10 ((i + 1 : Nat) : Int))
      11 ((t : Int) + (i + 1 : Nat))) 13 ((i + 1 : Nat) : Int), .normal) := by
  rw [List.getD_eq_getElem?_getD, List.getElem?_eq_getElem hti, Option.getD_some]
  refine Runs.run_eq (.seq (.seq (.store (n := i) rfl (eval_idx_at (n := t + i) rfl (h11.trans (Int.natCast_add t i).symm) hti)
    h10 (Nat.lt_of_le_of_lt (Nat.le_add_left i t) hti) (.seq (.assign rfl (.assign rfl (.assign rfl ?_)))))))
  show setVar (setVar (setVar _ 10 (s.vars 10 + 1)) 11 (s.vars 11 + 1)) 13 (s.vars 13 + 1) = _
  rw [h10, h11, h13, Int.add_assoc]; rfl

theorem mv_loop : ∀ (k : Nat) (s : State) (t i fuel : Nat), s.vars 13 = i → s.vars 10 = i → s.vars 11 = (t : Int) + i →
    s.vars 12 = (i : Int) + k → t + i + k ≤ s.arr.length → k + 1 ≤ fuel →
    loop (fun s' => mvCond.eval s') (fun s' => mvBody.run s') fuel s = (afterMove s t i k, .normal) := by
  intro k
  induction k with
  | zero =>
    intro s t i fuel h13 h10 h11 h12 _ hf
    have hc : mvCond.eval s = some (b2i (s.vars 13 < s.vars 12)) := rfl
    rw [loop_done hf (hc.trans (congrArg some (b2i_decide_eq_zero.mpr (by rw [h13, h12]; exact Int.lt_irrefl _))))]
    -- no round: `afterMove` writes into the three counters what they hold
    have e : afterMove s t i 0 = setVar (setVar (setVar s 11 (s.vars 11)) 10 (s.vars 10)) 13 (s.vars 13) := by
      rw [h11, h10, h13]; rfl
    rw [e, setVar_self rfl, setVar_self rfl, setVar_self rfl]
  | succ k ih =>
    intro s t i fuel h13 h10 h11 h12 hlen hf
    have hc : mvCond.eval s = some (b2i (s.vars 13 < s.vars 12)) := rfl
    have hlt : s.vars 13 < s.vars 12 := by rw [h13, h12]; exact Int.lt_add_of_pos_right _ (Int.natCast_pos.mpr k.succ_pos)
    have e : (i : Int) + (k + 1 : Nat) = ((i + 1 : Nat) : Int) + k := by omega
    rw [loop_step (Nat.zero_lt_of_lt hf) hc (b2i_decide_ne_zero.mpr hlt)
      (mvBody_run h13 h10 h11 (Nat.lt_of_le_of_lt (Nat.le_add_right _ k) hlen))]
    refine Eq.trans (ih _ t (i + 1) _ rfl rfl rfl (h12.trans e) ?_ (Nat.le_sub_of_add_le hf))
      (congrArg (·, Outcome.normal) (State.ext (fun y => ?_) rfl rfl))
    · show t + i + 1 + k ≤ (s.arr.set _ _).length
      rw [List.length_set, Nat.add_right_comm]
      exact hlen
    simp only [afterMove, setVar_vars, e]
    exact ite_congr rfl (fun _ => rfl) fun h13 => ite_congr rfl (fun _ => rfl) fun h10 =>
      ite_congr rfl (fun _ => rfl) fun h11 => by simp [h13, h10, h11]

/-- the state after one round of `while ( num_to_read <= 0 )` on the scanner's own buffer: `yy_buf_size` doubled, `yy_ch_buf` reallocated
    to `yy_buf_size + 2`, `yy_c_buf_p` put back, `num_to_read` computed anew (`grBody_run`) -/
def growOnce (s : State) : State :=
  setVar (setVar (setVar { setVar (setVar (setVar s 16 (s.vars 0 - 0)) 17 (s.vars 4 * 2)) 4 (s.vars 4 * 2) with
      arr := s.arr ++ List.replicate ((s.vars 4 * 2 + 2).toNat - s.arr.length) garbage } 8 1) 0 (s.vars 0 - 0))
    15 (s.vars 4 * 2 - s.vars 12 - 1)

theorem grBody_run (s : State) (hours : s.vars 7 ≠ 0) (hpos : 1 ≤ s.vars 4) : grBody.run s = (growOnce s, .normal) :=
  have h17 : ¬ s.vars 4 * 2 ≤ 0 := by omega
  Runs.run_eq (.seq (.assign rfl (.seq (.ite_true rfl hours (.seq (.assign rfl (.seq (.ite_neg rfl h17
    (.assign rfl (.seq (.growTo rfl (.assign rfl (.seq (.ite_false rfl (.skip (.seq (.assign rfl (.assign rfl rfl))))))))))))))))))

/-- what the growth loop, entered in `s0`, has done when it leaves `s`: room for at least one byte, in a buffer that was only
    extended; nothing else changed but its size and the loop's own variables -/
structure Grown (s0 s : State) : Prop where
  frame : ∀ y, y ≠ 15 → y ≠ 8 → y ≠ 4 → y ≠ 17 → y ≠ 16 → s.vars y = s0.vars y
  size_le : s0.vars 4 ≤ s.vars 4
  ntr : s.vars 15 = s.vars 4 - s.vars 12 - 1
  room : 1 ≤ s.vars 15
  len : (s.arr.length : Int) = s.vars 4 + 2
  ext : ∃ e, s.arr = s0.arr ++ e
  log : s.log = s0.log

theorem Grown.frame' {s0 s : State} (h : Grown s0 s) {y : Nat} (hy : y ∉ [15, 8, 4, 17, 16]) : s.vars y = s0.vars y := by
  obtain ⟨a, b, c, d, e⟩ : y ≠ 15 ∧ y ≠ 8 ∧ y ≠ 4 ∧ y ≠ 17 ∧ y ≠ 16 := by simpa using hy
  exact h.frame y a b c d e

/-- the size the growth loop ends with (the same recursion as `Buf.growTo` of the hand-written buffer machine) -/
def growSize (size p : Nat) : Nat → Nat
  | 0 => size
  | fuel + 1 => if size ≥ p + 2 then size else growSize (if size = 0 then 1 else size * 2) p fuel

theorem growSize_done (size p : Nat) (h : p + 2 ≤ size) : ∀ f, growSize size p f = size
  | 0 => rfl
  | f + 1 => by simp [growSize, h]

theorem growSize_step (size p f : Nat) (h : size < p + 2) (h0 : size ≠ 0) : growSize size p (f + 1) = growSize (size * 2) p f := by
  rw [growSize, if_neg (by omega), if_neg h0]

/-- the growth loop (`while ( num_to_read <= 0 )`), by induction on a bound `d` for the room missing, `number_to_move + 2 -
    yy_buf_size`: a doubling lowers it by the size, which is at least 1.  The buffer need not be the scanner's own if there is
    room already (`hcan`).  The size arrived at is `growSize` for every fuel `f ≥ d`: the caller (`Read.of_rd`) has `d = 2`, since
    the token fits the buffer, but needs `f = number_to_move + 2`, the fuel `Buf.refill` gives its `growTo` -/
theorem gr_loop' (d : Nat) (s : State) (fuel : Nat) (hpos : 1 ≤ s.vars 4) (h12 : 0 ≤ s.vars 12)
    (hcan : s.vars 7 ≠ 0 ∨ 1 ≤ s.vars 15) (h15 : s.vars 15 = s.vars 4 - s.vars 12 - 1)
    (hlen : (s.arr.length : Int) = s.vars 4 + 2) (hd : s.vars 12 + 2 - s.vars 4 ≤ d) (hf : d < fuel) :
    ∃ s', loop (fun s' => grCond.eval s') (fun s' => grBody.run s') fuel s = (s', .normal) ∧ Grown s s' ∧
      ∀ f, d ≤ f → (s'.vars 4).toNat = growSize (s.vars 4).toNat (s.vars 12).toNat f := by
  induction d using Nat.strongRecOn generalizing s fuel with
  | ind d ih =>
    -- the size `n` and the number `p` of characters held, as natural numbers
    obtain ⟨n, h4⟩ := Int.eq_ofNat_of_zero_le (Int.le_trans (by decide) hpos)
    obtain ⟨p, hp⟩ := Int.eq_ofNat_of_zero_le h12
    rw [h4, hp, Int.toNat_natCast, Int.toNat_natCast]
    have hc : grCond.eval s = some (b2i (s.vars 15 ≤ 0)) := rfl
    have hfuel := Nat.zero_lt_of_lt hf
    by_cases hroom : 1 ≤ s.vars 15
    · exact ⟨s, loop_done hfuel (hc.trans (congrArg some (b2i_decide_eq_zero.mpr (Int.not_le.mpr hroom)))),
        ⟨fun _ _ _ _ _ _ => rfl, Int.le_refl _, h15, hroom, hlen, ⟨[], (List.append_nil _).symm⟩, rfl⟩,
        fun f _ => by rw [growSize_done n p (by omega) f, h4, Int.toNat_natCast]⟩
    -- one doubling, then the loop from the doubled buffer
    have hours := hcan.resolve_right hroom
    have hlt : n < p + 2 := by omega
    cases d with
    | zero => omega
    | succ d =>
    have hn : 1 ≤ n := Int.ofNat_le.mp (h4 ▸ hpos)
    have hn2 : n ≤ n * 2 := Nat.le_mul_of_pos_right n (by decide)
    have hL : s.arr.length = n + 2 := Int.ofNat.inj (hlen.trans (by rw [h4]; rfl))
    have e4 : (growOnce s).vars 4 = ((n * 2 : Nat) : Int) := by show s.vars 4 * 2 = _; rw [h4]; rfl
    have elen : ((growOnce s).arr.length : Int) = s.vars 4 * 2 + 2 := by
      show ((s.arr ++ List.replicate ((s.vars 4 * 2 + 2).toNat - s.arr.length) garbage).length : Int) = _
      rw [h4, show (n : Int) * 2 + 2 = ((n * 2 + 2 : Nat) : Int) from rfl, Int.toNat_natCast, List.length_append,
        List.length_replicate, hL, Nat.add_sub_cancel' (Nat.add_le_add_right hn2 2)]
    obtain ⟨s', hrun, hG, hsz⟩ := ih d (Nat.lt_succ_self d) (growOnce s) (fuel - 1)
      (e4 ▸ Int.ofNat_le.mpr (Nat.le_trans hn hn2)) h12 (.inl hours) rfl elen
      (show s.vars 12 + 2 - s.vars 4 * 2 ≤ d by omega) (Nat.lt_sub_of_add_lt hf)
    rw [e4, show (growOnce s).vars 12 = p from hp, Int.toNat_natCast, Int.toNat_natCast] at hsz
    refine ⟨s', ?_, ⟨fun y a b c d e => ?_, ?_, hG.ntr, hG.room, hG.len, ?_, hG.log⟩, fun f hf => ?_⟩
    · rw [loop_step hfuel hc (b2i_decide_ne_zero.mpr (Int.not_lt.mp hroom)) (grBody_run s hours hpos), hrun]
    · rw [hG.frame y a b c d e]
      simp [growOnce, setVar_vars, a, b, c, d, e]
      -- `yy_c_buf_p` is written back as it was
      intro h0; rw [h0]
    · exact Int.le_trans (by rw [h4, e4]; exact Int.ofNat_le.mpr hn2) hG.size_le
    · obtain ⟨e, he⟩ := hG.ext
      exact ⟨_, he.trans (List.append_assoc ..)⟩
    · cases f with
      | zero => exact absurd hf (Nat.not_succ_le_zero d)
      | succ f => rw [growSize_step n p f hlt (Nat.ne_of_gt hn)]; exact hsz f (Nat.le_of_succ_le_succ hf)

/-- `gr_loop'` for a buffer that is the scanner's own (`yy_is_our_buffer`) -/
theorem gr_loop : ∀ (d : Nat) (s : State) (fuel : Nat), 1 ≤ s.vars 4 → s.vars 7 ≠ 0 → s.vars 15 = s.vars 4 - s.vars 12 - 1 →
    (s.arr.length : Int) = s.vars 4 + 2 → (s.vars 12 + 2 - s.vars 4).toNat ≤ d → d + 1 ≤ fuel → 0 ≤ s.vars 12 →
    ∃ s', loop (fun s' => grCond.eval s') (fun s' => grBody.run s') fuel s = (s', .normal) ∧ Grown s s' ∧
      ∀ f, d ≤ f → (s'.vars 4).toNat = growSize (s.vars 4).toNat (s.vars 12).toNat f :=
  fun d s fuel hpos hours h15 hlen hd hf h12 => gr_loop' d s fuel hpos h12 (.inl hours) h15 hlen (Int.toNat_le.mp hd) hf

/-- what `YY_INPUT` stores in `yy_n_chars` when asked for `m` bytes: the reader gives what it has, at most `m` -/
def got (s : State) (m : Int) : Nat := min (s.vars inLen).toNat m.toNat
/-- the first `n` bytes the reader has -/
def chunk (s : State) (n : Nat) : List Int := (List.range n).map fun i => s.vars (inByte i)

/-- how much is asked for: the room left, at most YY_READ_BUF_SIZE -/
def ask (s : State) : Int := if s.vars 18 < s.vars 15 then s.vars 18 else s.vars 15

/-- the state after `rdTail`: `num_to_read` capped at YY_READ_BUF_SIZE, `YY_INPUT( &yy_ch_buf[number_to_move], yy_n_chars, num_to_read )`,
    the buffer's own `yy_n_chars` set (`rdTail_run`) -/
def afterRead (s : State) : State :=
  setVar (setVar { setVar s 15 (ask s) with
      arr := s.arr.take (s.vars 12).toNat ++ chunk s (got s (ask s)) ++ s.arr.drop ((s.vars 12).toNat + got s (ask s)) }
    2 (got s (ask s))) 3 (got s (ask s))

theorem chunk_length (s : State) (n : Nat) : (chunk s n).length = n := by simp [chunk]

theorem chunk_congr {s s' : State} (h : ∀ i, s'.vars (inByte i) = s.vars (inByte i)) (n : Nat) : chunk s' n = chunk s n :=
  List.map_congr_left fun i _ => h i

theorem inByte_ne (i x : Nat) (hx : x < 900) : inByte i ≠ x := by unfold inByte; omega

theorem inByte_not_mem (i : Nat) {l : List Nat} (h : ∀ x ∈ l, x < 900) : inByte i ∉ l := fun hm => inByte_ne i _ (h _ hm) rfl

theorem ask_eq_min (s : State) : ask s = min (s.vars 18) (s.vars 15) := by
  unfold ask; split <;> omega

theorem ask_range (s : State) (h15 : 1 ≤ s.vars 15) (h18 : 1 ≤ s.vars 18) : 1 ≤ ask s ∧ ask s ≤ s.vars 15 := by
  unfold ask; split <;> omega

theorem got_le (s : State) {m : Int} (hm : 1 ≤ m) : (got s m : Int) ≤ m :=
  Int.le_trans (Int.ofNat_le.mpr (Nat.min_le_right ..)) (Int.le_of_eq (Int.toNat_of_nonneg (Int.le_trans (by decide) hm)))

theorem got_congr {s s' : State} (h : s'.vars inLen = s.vars inLen) (m : Int) : got s' m = got s m := by
  unfold got; rw [h]

theorem afterRead_arr (s : State) (h15 : 1 ≤ s.vars 15) (h12 : 0 ≤ s.vars 12) (h18 : 1 ≤ s.vars 18)
    (hfit : s.vars 12 + s.vars 15 ≤ (s.arr.length : Int)) :
    (afterRead s).arr.length = s.arr.length ∧
    (afterRead s).arr.take ((s.vars 12).toNat + got s (ask s)) = s.arr.take (s.vars 12).toNat ++ chunk s (got s (ask s)) := by
  obtain ⟨h1, h2⟩ := ask_range s h15 h18
  exact splice s.arr _ (chunk_length ..) (Nat.le_trans (Nat.add_le_add_left (Nat.min_le_right ..) _)
    (toNat_add_le h12 (Int.le_trans (by decide) h1) (Int.le_trans (Int.add_le_add_left h2 _) hfit)))

theorem rdTail_run (s : State) (h15 : 1 ≤ s.vars 15) (h12 : 0 ≤ s.vars 12) (h18 : 1 ≤ s.vars 18)
    (hfit : s.vars 12 + s.vars 15 ≤ (s.arr.length : Int)) : rdTail.run s = (afterRead s, .normal) := by
  have hask : (St.ite (.lt (.var 18) (.var 15)) (.assign 15 (.var 18)) .skip).run s = (setVar s 15 (ask s), .normal) := by
    by_cases hc : s.vars 18 < s.vars 15
    · rw [ask, if_pos hc]
      exact Runs.run_eq (.ite_pos rfl hc (.assign rfl rfl))
    · rw [ask, if_neg hc, setVar_self rfl]
      exact Runs.run_eq (.ite_neg rfl hc (.skip rfl))
  obtain ⟨h1, h2⟩ := ask_range s h15 h18
  refine Runs.run_eq (.seq (.of_eq hask (.seq (.read rfl rfl h12 (Int.le_trans (by decide) h1)
    (Int.le_trans (Int.add_le_add_left h2 _) hfit) (.assign rfl ?_)))))
  refine State.ext (fun y => rfl) ?_ rfl
  simp only [afterRead, setVar_arr]
  exact congrArg (fun c => s.arr.take _ ++ c ++ s.arr.drop _) (chunk_congr (fun i => setVar_ne s _ (inByte_ne i 15 (by decide))) _)

/-- nothing read: end of file if nothing but the yymore() prefix is pending (yyrestart is called), else the pending
    text is to be matched first and the buffer remembers that the end was seen; something read: go on scanning -/
def verdict (s : State) : State :=
  if s.vars 2 = 0 then
    if s.vars 12 = s.vars 9 then { setVar s 14 1 with log := s.log ++ [(0, 0)] }
    else setVar (setVar s 14 2) 6 2
  else setVar s 14 0

/-- the state `fin` ends in, from the state after its first `if` (`verdict`): `yy_n_chars += number_to_move`, the buffer's own count
    set, both end marks written behind the data, `yytext_ptr` at the front (`fin_run`) -/
def finish (s : State) : State :=
  setVar { setVar (setVar s 2 (s.vars 2 + s.vars 12)) 3 (s.vars 2 + s.vars 12) with
      arr := (s.arr.set (s.vars 2 + s.vars 12).toNat 0).set ((s.vars 2 + s.vars 12).toNat + 1) 0 } 1 0

theorem verdict_run (s : State) :
    (St.ite (.eq (.var 2) (.lit 0))
      (.ite (.eq (.var 12) (.var 9)) (.seq (.assign 14 (.lit 1)) (.call 0 (.lit 0))) (.seq (.assign 14 (.lit 2)) (.assign 6 (.lit 2))))
      (.assign 14 (.lit 0))).run s = (verdict s, .normal) := by
  unfold verdict
  split
  · split
    · exact Runs.run_eq (.ite_pos rfl ‹_› (.ite_pos rfl ‹_› (.seq (.assign rfl (.call rfl rfl)))))
    · exact Runs.run_eq (.ite_pos rfl ‹_› (.ite_neg rfl ‹_› (.seq (.assign rfl (.assign rfl rfl)))))
  · exact Runs.run_eq (.ite_neg rfl ‹_› (.assign rfl rfl))

theorem verdict_vars (s : State) (y : Nat) (h14 : y ≠ 14) (h6 : y ≠ 6) : (verdict s).vars y = s.vars y := by
  by_cases h2 : s.vars 2 = 0 <;> by_cases h12 : s.vars 12 = s.vars 9 <;> simp [verdict, setVar_vars, *]
theorem verdict_arr (s : State) : (verdict s).arr = s.arr := by
  by_cases h2 : s.vars 2 = 0 <;> by_cases h12 : s.vars 12 = s.vars 9 <;> simp [verdict, *]
theorem verdict_14 (s : State) : (verdict s).vars 14 = if s.vars 2 ≠ 0 then 0 else if s.vars 12 = s.vars 9 then 1 else 2 := by
  by_cases h2 : s.vars 2 = 0 <;> by_cases h12 : s.vars 12 = s.vars 9 <;> simp [verdict, setVar_vars, *]
theorem verdict_6 (s : State) : (verdict s).vars 6 = if s.vars 2 = 0 ∧ s.vars 12 ≠ s.vars 9 then 2 else s.vars 6 := by
  by_cases h2 : s.vars 2 = 0 <;> by_cases h12 : s.vars 12 = s.vars 9 <;> simp [verdict, setVar_vars, *]
theorem verdict_log (s : State) : (verdict s).log = s.log ++ if s.vars 2 = 0 ∧ s.vars 12 = s.vars 9 then [(0, 0)] else [] := by
  by_cases h2 : s.vars 2 = 0 <;> by_cases h12 : s.vars 12 = s.vars 9 <;> simp [verdict, *]

theorem finish_arr (v : State) (m : Nat) (hm : v.vars 2 + v.vars 12 = m) (hl : m + 2 ≤ v.arr.length) :
    (finish v).arr.take (m + 2) = v.arr.take m ++ [0, 0] ∧ (finish v).arr.length = v.arr.length := by
  simp only [finish, setVar_arr, hm, Int.toNat_natCast, List.length_set]
  exact ⟨take_set_set _ _ _ _ hl, trivial⟩

theorem fin_run (s : State) (h2 : 0 ≤ s.vars 2) (h12 : 0 ≤ s.vars 12) (hfit : s.vars 2 + s.vars 12 ≤ s.vars 4)
    (hlen : (s.arr.length : Int) = s.vars 4 + 2) :
    fin.run s = (finish (verdict s), .returned ((verdict s).vars 14)) := by
  have v2 := verdict_vars s 2 (by decide) (by decide)
  have v12 := verdict_vars s 12 (by decide) (by decide)
  have v4 := verdict_vars s 4 (by decide) (by decide)
  have vlen := congrArg List.length (verdict_arr s)
  refine Runs.run_eq (.seq (.of_eq (verdict_run s) ?_))
  generalize verdict s = v at *
  -- the buffer is large enough (the branch that enlarges it is never taken), so both marks fit
  have hdead : ¬ v.vars 4 < v.vars 2 + v.vars 12 := by omega
  have hnn : 0 ≤ v.vars 2 + v.vars 12 := by omega
  have hi : (v.vars 2 + v.vars 12).toNat + 1 < v.arr.length :=
    Int.ofNat_lt.mp (by rw [Int.natCast_add, Int.toNat_of_nonneg hnn]; omega)
  have hk := (Int.toNat_of_nonneg hnn).symm
  exact .seq (.ite_neg rfl hdead (.skip (.seq (.assign rfl (.seq (.assign rfl
    (.seq (.store rfl rfl hk (Nat.lt_of_succ_lt hi) (.seq (.store rfl rfl (congrArg (· + 1) hk) (by simpa using hi)
    (.seq (.assign rfl (.ret rfl rfl)))))))))))))

/-- what the scanner guarantees when it calls `yy_get_next_buffer()`: the buffer has `yy_buf_size + 2` cells and a positive
    size, the token being matched starts inside the buffer, the scan position is past it and at most one past the end-of-buffer
    mark, the data fit the buffer, and the read size is positive -/
structure Pre (s : State) : Prop where
  len : (s.arr.length : Int) = s.vars 4 + 2
  size_pos : 1 ≤ s.vars 4
  t_nn : 0 ≤ s.vars 1
  t_lt : s.vars 1 < s.vars 0
  c_le : s.vars 0 ≤ s.vars 2 + 1
  n_le : s.vars 2 ≤ s.vars 4
  rbs : 1 ≤ s.vars 18

def ntm (s : State) : Int := s.vars 0 - s.vars 1 - 1                    -- number_to_move: the length of the unfinished token

theorem Pre.ntm_range {s : State} (h : Pre s) : 0 ≤ ntm s ∧ s.vars 1 + ntm s ≤ s.vars 4 := by
  have := h.t_lt; have := h.c_le; have := h.n_le
  unfold ntm; omega

theorem Pre.token_fits {s : State} (h : Pre s) : (s.vars 1).toNat + (ntm s).toNat ≤ s.arr.length :=
  toNat_add_le h.t_nn h.ntm_range.1 (by have := h.len; have := h.ntm_range.2; omega)

/-- what the rest of the function needs to know about the state once the unfinished token has been moved (the default
    skeleton copies it in a loop, the c99 skeleton calls memmove) -/
structure MovedLike (s sM : State) : Prop where
  vars : ∀ y, y ≠ 10 → y ≠ 11 → y ≠ 12 → y ≠ 13 → sM.vars y = s.vars y
  v12 : sM.vars 12 = ntm s
  take : sM.arr.take (ntm s).toNat = (s.arr.drop (s.vars 1).toNat).take (ntm s).toNat
  mlen : ((s.arr.drop (s.vars 1).toNat).take (ntm s).toNat).length = (ntm s).toNat
  len : sM.arr.length = s.arr.length
  log : sM.log = s.log

theorem MovedLike.frame {s sM : State} (h : MovedLike s sM) {y : Nat} (hy : y ∉ [10, 11, 12, 13]) : sM.vars y = s.vars y := by
  obtain ⟨a, b, c, d⟩ : y ≠ 10 ∧ y ≠ 11 ∧ y ≠ 12 ∧ y ≠ 13 := by simpa using hy
  exact h.vars y a b c d

theorem MovedLike.of_arr {s sM : State} (hP : Pre s) (hv : ∀ y, y ≠ 10 → y ≠ 11 → y ≠ 12 → y ≠ 13 → sM.vars y = s.vars y)
    (h12 : sM.vars 12 = ntm s)
    (harr : sM.arr = (s.arr.drop (s.vars 1).toNat).take (ntm s).toNat ++ s.arr.drop (ntm s).toNat) (hlog : sM.log = s.log) :
    MovedLike s sM := by
  obtain ⟨hl, hlen, htake⟩ := moved_front s.arr hP.token_fits
  exact ⟨hv, h12, by rw [harr]; exact htake, hl, by rw [harr]; exact hlen, hlog⟩

theorem MovedLike.pre {s x : State} (hP : Pre s) (hM : MovedLike s x) :
    (x.arr.length : Int) = x.vars 4 + 2 ∧ 1 ≤ x.vars 4 ∧ 0 ≤ x.vars 12 ∧ x.vars 12 ≤ x.vars 4 ∧ 1 ≤ x.vars 18 := by
  obtain ⟨hk, hkle⟩ := hP.ntm_range
  rw [hM.len, hM.v12, hM.frame (y := 4) (by decide), hM.frame (y := 18) (by decide)]
  exact ⟨hP.len, hP.size_pos, hk, by have := hP.t_nn; omega, hP.rbs⟩

/-- **what yy_get_next_buffer() leaves** when it took `n` bytes from the reader: the unfinished token at the start of the
    buffer, then exactly those bytes, then the two end-of-buffer marks; the counts of the scanner and of the buffer agree;
    everything inside a buffer that may have grown but never shrinks -/
structure Filled (s s' : State) (n : Nat) : Prop where
  text : s'.vars 1 = 0
  pos : s'.vars 0 = s.vars 0
  nchars : s'.vars 2 = ntm s + n
  bufn : s'.vars 3 = ntm s + n
  size_le : s.vars 4 ≤ s'.vars 4
  len : (s'.arr.length : Int) = s'.vars 4 + 2
  fits : ntm s + n ≤ s'.vars 4
  data : s'.arr.take ((ntm s).toNat + n + 2) = (s.arr.drop (s.vars 1).toNat).take (ntm s).toNat ++ chunk s n ++ [0, 0]
  status : s'.vars 6 = if n = 0 ∧ ntm s ≠ s.vars 9 then 2 else s.vars 6
  log : s'.log = s.log ++ if n = 0 ∧ ntm s = s.vars 9 then [(0, 0)] else []

/-- the value returned: go on scanning (0) if anything was read; else end of file (1) if only the yymore() prefix is
    pending, else match the pending text first (2) -/
def retOf (s : State) (n : Nat) : Int := if n ≠ 0 then 0 else if ntm s = s.vars 9 then 1 else 2

/-- the state `s6` in which `fin` is entered, seen from the state `x` in which `fill` was: `n` bytes have been put behind
    the moved token -/
structure Read (x s6 : State) (n : Nat) : Prop where
  v0 : s6.vars 0 = x.vars 0
  v6 : s6.vars 6 = x.vars 6
  v9 : s6.vars 9 = x.vars 9
  v12 : s6.vars 12 = x.vars 12
  nchars : s6.vars 2 = n
  size_le : x.vars 4 ≤ s6.vars 4
  len : (s6.arr.length : Int) = s6.vars 4 + 2
  fits : x.vars 12 + n ≤ s6.vars 4
  data : s6.arr.take ((x.vars 12).toNat + n) = x.arr.take (x.vars 12).toNat ++ chunk x n
  log : s6.log = x.log

theorem Read.of_eofp {s x : State} (hP : Pre s) (hM : MovedLike s x) : Read x (setVar (setVar x 2 0) 3 0) 0 :=
  have ⟨hlen, _, _, hle, _⟩ := hM.pre hP
  { v0 := rfl, v6 := rfl, v9 := rfl, v12 := rfl, nchars := rfl, size_le := Int.le_refl _, len := hlen,
    fits := by simpa [setVar_vars] using hle, data := by simp [chunk], log := rfl }

theorem Read.of_rd {s x : State} (hP : Pre s) (hM : MovedLike s x) (hcan : x.vars 7 ≠ 0 ∨ 1 ≤ x.vars 4 - x.vars 12 - 1) :
    ∃ s6 m, rd.run x = (s6, .normal) ∧ Read x s6 (got x m) ∧ 1 ≤ m ∧ m = min (x.vars 18) (s6.vars 4 - x.vars 12 - 1) ∧
      (s6.vars 4).toNat = growSize (x.vars 4).toNat (x.vars 12).toNat ((x.vars 12).toNat + 2) := by
  obtain ⟨hlen, hpos, h12, hle, h18⟩ := hM.pre hP
  -- the growth loop ends in `s5`, where there is room
  obtain ⟨s5, hrun, hG, hsize⟩ := gr_loop' 2 (setVar x 15 (x.vars 4 - x.vars 12 - 1)) (x.arr.length + 3) hpos h12 hcan rfl
    hlen (show x.vars 12 + 2 - x.vars 4 ≤ ((2 : Nat) : Int) by omega) (Nat.lt_add_left _ (by decide))
  -- it has left the token and the reader's variables alone
  have e12 : s5.vars 12 = x.vars 12 := hG.frame' (by decide)
  have e18 : s5.vars 18 = x.vars 18 := hG.frame' (by decide)
  have hgot : got s5 (ask s5) = got x (ask s5) := got_congr (hG.frame' (by decide)) _
  have hch : ∀ n, chunk s5 n = chunk x n := chunk_congr fun i =>
    (hG.frame' (inByte_not_mem i (by decide))).trans (setVar_ne x _ (inByte_ne i 15 (by decide)))
  rw [← e12] at h12
  rw [← e18] at h18
  have hntr := hG.ntr; have hL := hG.len
  have hfit : s5.vars 12 + s5.vars 15 ≤ s5.arr.length := by omega
  obtain ⟨ha1, ha15⟩ := ask_range s5 hG.room h18
  have hg := got_le x ha1
  obtain ⟨hl, hd⟩ := afterRead_arr s5 hG.room h12 h18 hfit
  obtain ⟨e, (he : s5.arr = x.arr ++ e)⟩ := hG.ext
  rw [hgot, e12, hch, he, List.take_append_of_le_length (Int.toNat_le.mpr (by omega))] at hd
  exact ⟨afterRead s5, ask s5,
    Runs.run_eq (.seq (.assign rfl (.seq (.while_ hrun (.of_eq (rdTail_run s5 hG.room h12 h18 hfit) rfl))))),
    { v0 := hG.frame' (by decide), v6 := hG.frame' (by decide), v9 := hG.frame' (by decide), v12 := e12,
      nchars := congrArg Int.ofNat hgot, size_le := hG.size_le, len := (congrArg Int.ofNat hl).trans hL,
      fits := show _ ≤ s5.vars 4 by omega, data := hd, log := hG.log },
    ha1, by rw [ask_eq_min, e18, hntr, e12]; rfl,
    hsize _ (Nat.le_add_left 2 _)⟩

theorem finish_filled {s x s6 : State} {n : Nat} (hP : Pre s) (hM : MovedLike s x) (hR : Read x s6 n) :
    ∃ s', fin.run s6 = (s', .returned (retOf s n)) ∧ Filled s s' n ∧ s'.vars 4 = s6.vars 4 := by
  obtain ⟨k, hk⟩ := Int.eq_ofNat_of_zero_le hP.ntm_range.1
  have hkn : (ntm s).toNat = k := by rw [hk]; rfl
  have h12 : s6.vars 12 = k := hR.v12.trans (hM.v12.trans hk)
  have h2 := hR.nchars
  have h9 := hR.v9.trans (hM.frame (by decide))
  have hfit : s6.vars 2 + s6.vars 12 ≤ s6.vars 4 := by rw [h2, h12, Int.add_comm, ← hk, ← hM.v12]; exact hR.fits
  have hl : k + n + 2 ≤ (verdict s6).arr.length := by have := hR.len; rw [verdict_arr]; omega
  have hm : (verdict s6).vars 2 + (verdict s6).vars 12 = ((k + n : Nat) : Int) := by
    rw [verdict_vars s6 2 (by decide) (by decide), verdict_vars s6 12 (by decide) (by decide), h2, h12, Int.add_comm]; rfl
  have v4 : (finish (verdict s6)).vars 4 = s6.vars 4 := verdict_vars s6 4 (by decide) (by decide)
  have harr := finish_arr _ _ hm hl
  refine ⟨finish (verdict s6), ?_, ?_, v4⟩
  · rw [fin_run s6 (h2 ▸ Int.natCast_nonneg n) (h12 ▸ Int.natCast_nonneg k) hfit hR.len, verdict_14, h2, h12, ← hk, h9]
    simp [retOf]
  exact {
    text := rfl
    pos := (verdict_vars s6 0 (by decide) (by decide)).trans (hR.v0.trans (hM.frame (by decide)))
    nchars := hm.trans (hk ▸ Int.natCast_add k n)
    bufn := hm.trans (hk ▸ Int.natCast_add k n)
    size_le := by rw [v4]; exact hM.frame (y := 4) (by decide) ▸ hR.size_le
    len := by rw [v4, harr.2, verdict_arr]; exact hR.len
    fits := by rw [v4, hk, ← h12, Int.add_comm, ← h2]; exact hfit
    data := by
      rw [hkn, harr.1, verdict_arr, ← hkn, ← hM.v12, hR.data, hM.v12, hM.take,
        chunk_congr (fun i => hM.frame (inByte_not_mem i (by decide))) n]
    status := (verdict_6 s6).trans (by simp [h2, h12, ← hk, h9, hR.v6.trans (hM.frame (by decide))])
    log := (verdict_log s6).trans (by simp [h2, h12, ← hk, h9, hR.log, hM.log]) }

theorem rest_eof_pending (s sM : State) (hP : Pre s) (hM : MovedLike s sM) (h6 : s.vars 6 = 2) :
    ∃ s', (St.seq fill fin).run sM = (s', .returned (retOf s 0)) ∧ Filled s s' 0 ∧ s'.vars 4 = s.vars 4 := by
  obtain ⟨s', hr, hF, h4⟩ := finish_filled hP hM (Read.of_eofp hP hM)
  have h6' : sM.vars 6 = 2 := (hM.frame (by decide)).trans h6
  exact Runs.seq (.ite_pos rfl h6' (.seq (.assign rfl (.assign rfl ⟨s', hr, hF, h4.trans (hM.frame (y := 4) (by decide))⟩))))

/-- exactly how much is asked for and how far the buffer grew: the room left after doubling the size until one byte fits,
    at most YY_READ_BUF_SIZE -/
structure Exact (s s' : State) (m : Int) : Prop where
  asked : m = min (s.vars 18) (s'.vars 4 - ntm s - 1)
  size : (s'.vars 4).toNat = growSize (s.vars 4).toNat (ntm s).toNat ((ntm s).toNat + 2)

theorem rest_read (s sM : State) (hP : Pre s) (hM : MovedLike s sM) (h6 : s.vars 6 ≠ 2)
    (hcan : s.vars 7 ≠ 0 ∨ 1 ≤ s.vars 4 - ntm s - 1) :
    ∃ s' m, 1 ≤ m ∧ m ≤ s.vars 18 ∧ (St.seq fill fin).run sM = (s', .returned (retOf s (got s m))) ∧ Filled s s' (got s m) ∧
      Exact s s' m := by
  have e4 := hM.frame (y := 4) (by decide)
  have e18 := hM.frame (y := 18) (by decide)
  rw [← hM.frame (y := 7) (by decide), ← e4, ← hM.v12] at hcan
  obtain ⟨s6, m, hrd, hR, hm1, hm, hsize⟩ := Read.of_rd hP hM hcan
  rw [got_congr (hM.frame (by decide))] at hR
  obtain ⟨s', hr, hF, h4⟩ := finish_filled hP hM hR
  have h6' : ¬ sM.vars 6 = 2 := hM.frame (y := 6) (by decide) ▸ h6
  have hf : fill.run sM = (s6, .normal) := Runs.run_eq (.ite_neg rfl h6' (.of_eq hrd rfl))
  rw [hM.v12, e18, ← h4] at hm
  rw [hM.v12, e4, ← h4] at hsize
  exact ⟨s', m, hm1, hm ▸ Int.min_le_left .., by rw [run_seq_normal hf]; exact hr, hF, hm, hsize⟩

theorem rest_overflow (s sM : State) (hM : MovedLike s sM) (h6 : s.vars 6 ≠ 2)
    (hours : s.vars 7 = 0) (hfull : s.vars 4 - ntm s - 1 ≤ 0) :
    ∃ s', (St.seq fill fin).run sM = (s', .fatal 1) ∧ s'.log = s.log := by
  have h4 := hM.frame (y := 4) (by decide)
  have h7 := (hM.frame (y := 7) (by decide)).trans hours
  have h12 := hM.v12
  have h6' : ¬ sM.vars 6 = 2 := hM.frame (y := 6) (by decide) ▸ h6
  have hc : b2i (decide (sM.vars 4 - sM.vars 12 - 1 ≤ 0)) ≠ 0 := b2i_decide_ne_zero.mpr (by omega)
  exact Runs.seq_stop (.ite_neg rfl h6'
    (.seq (.assign rfl (.seq_stop (.while_stop rfl hc (.seq (.assign rfl (.seq (.ite_false (congrArg some h7) (.assign rfl
      (.seq_stop (.ite_true (v := 1) rfl (by decide) (.fatal hM.log)) (by simp))))))) (by simp)) (by simp))))) (by simp)

/-- what is proved of a translation of yy_get_next_buffer() (the default skeleton's here, the c99 skeleton's in
    `C03NextBufC99.lean`) -/
structure Correct (prog : St) : Prop where
  nofill : ∀ s, Pre s → s.vars 5 = 0 →
    ∃ s', prog.run s = (s', .returned (if s.vars 0 - s.vars 1 - s.vars 9 = 1 then 1 else 2)) ∧ s'.arr = s.arr ∧
      s'.log = s.log ∧ ∀ y, y ≠ 10 → y ≠ 11 → s'.vars y = s.vars y
  eof_pending : ∀ s, Pre s → s.vars 5 ≠ 0 → s.vars 6 = 2 →
    ∃ s', prog.run s = (s', .returned (retOf s 0)) ∧ Filled s s' 0 ∧ s'.vars 4 = s.vars 4
  read : ∀ s, Pre s → s.vars 5 ≠ 0 → s.vars 6 ≠ 2 → (s.vars 7 ≠ 0 ∨ 1 ≤ s.vars 4 - ntm s - 1) →
    ∃ s' m, 1 ≤ m ∧ m ≤ s.vars 18 ∧ prog.run s = (s', .returned (retOf s (got s m))) ∧ Filled s s' (got s m) ∧ Exact s s' m
  overflow : ∀ s, Pre s → s.vars 5 ≠ 0 → s.vars 6 ≠ 2 → s.vars 7 = 0 → s.vars 4 - ntm s - 1 ≤ 0 →
    ∃ s', prog.run s = (s', .fatal 1) ∧ s'.log = s.log

/-- `mvx` moves the unfinished token to the start of the buffer (it is run when `dest`, `source` and `number_to_move` are set) -/
def Moves (mvx : St) : Prop :=
  ∀ s, Pre s → ∃ sM, mvx.run (setVar (setVar (setVar s 10 0) 11 (s.vars 1)) 12 (ntm s)) = (sM, .normal) ∧ MovedLike s sM

/-- the function as far as the two skeletons agree: `g` stands for the test of `yy_fill_buffer`, `mvx` for the statement that
    moves the unfinished token -/
theorem Correct.of_pieces {g mvx : St} (hg : ∀ s, g.run s = g2.run s) (hmv : Moves mvx) :
    Correct (.seq a1 (.seq a2 (.seq g1 (.seq g (.seq a3 (.seq mvx (.seq fill fin))))))) := by
  -- the buffer is to be refilled: the end-of-buffer mark was not missed, the token is moved, `fill` and `fin` do the rest
  have filled : ∀ {s sM : State} {o : Outcome} {Q : State → Prop}, Pre s → s.vars 5 ≠ 0 →
      mvx.run (setVar (setVar (setVar s 10 0) 11 (s.vars 1)) 12 (ntm s)) = (sM, .normal) → Runs (.seq fill fin) sM o Q →
      Runs (.seq a1 (.seq a2 (.seq g1 (.seq g (.seq a3 (.seq mvx (.seq fill fin))))))) s o Q := fun hP h5 hrun h =>
    .seq (.assign rfl (.seq (.assign rfl (.seq (.ite_neg rfl (Int.not_lt.mpr hP.c_le) (.skip (.seq (.of_run_eq (hg _)
      (.ite_neg rfl h5 (.skip (.seq (.assign rfl (.seq (.of_eq hrun h))))))))))))))
  refine ⟨fun s hP h5 => ?_, fun s hP h5 h6 => ?_, fun s hP h5 h6 hcan => ?_, fun s hP h5 h6 hours hfull => ?_⟩
  · refine Runs.seq (.assign rfl (.seq (.assign rfl (.seq (.ite_neg rfl (Int.not_lt.mpr hP.c_le) (.skip (.seq_stop
      (.of_run_eq (hg _) (.ite_pos rfl h5 ?_)) (by simp))))))))
    have hQ : ∀ y, y ≠ 10 → y ≠ 11 → (setVar (setVar s 10 0) 11 (s.vars 1)).vars y = s.vars y := fun y h0 h1 =>
      (setVar_ne _ _ h1).trans (setVar_ne _ _ h0)
    split
    · rename_i hc; exact .ite_pos rfl hc (.ret rfl ⟨rfl, rfl, hQ⟩)
    · rename_i hc; exact .ite_neg rfl hc (.ret rfl ⟨rfl, rfl, hQ⟩)
  · obtain ⟨sM, hrun, hM⟩ := hmv s hP
    exact filled hP h5 hrun (rest_eof_pending s sM hP hM h6)
  · obtain ⟨sM, hrun, hM⟩ := hmv s hP
    obtain ⟨s', m, h1, h2, hr, hF, hE⟩ := rest_read s sM hP hM h6 hcan
    exact ⟨s', m, h1, h2, (filled hP h5 hrun (.of_eq (Q := (· = s')) hr rfl)).run_eq, hF, hE⟩
  · obtain ⟨sM, hrun, hM⟩ := hmv s hP
    exact filled hP h5 hrun (rest_overflow s sM hM h6 hours hfull)

theorem mv_moves : Moves mv := by
  intro s hP
  have hfit := hP.token_fits
  refine ⟨_, Runs.run_eq (.seq (.assign rfl (.while_ (mv_loop (ntm s).toNat _ (s.vars 1).toNat 0 _ rfl rfl
    (show s.vars 1 = _ from ?_) (show ntm s = _ from ?_) (show _ ≤ s.arr.length from hfit)
    (show _ ≤ s.arr.length + 3 from ?_)) rfl))), .of_arr hP (fun y h0 h1 h2 h3 => ?_) rfl (moveFrom_eq s.arr _ _ hfit) rfl⟩
  · rw [Int.toNat_of_nonneg hP.t_nn]; exact (Int.add_zero _).symm
  · rw [Int.toNat_of_nonneg hP.ntm_range.1]; exact (Int.zero_add _).symm
  · exact Nat.add_le_add (Nat.le_trans (Nat.le_add_left ..) hfit) (by decide)
  · show (if y = 13 then _ else if y = 10 then _ else if y = 11 then _ else _) = _
    rw [if_neg h3, if_neg h0, if_neg h1]
    exact (setVar_ne _ _ h3).trans ((setVar_ne _ _ h2).trans ((setVar_ne _ _ h1).trans (setVar_ne _ _ h0)))

theorem nextBuf_correct : Correct nextBuf := nextBuf_shape ▸ .of_pieces (fun _ => rfl) mv_moves

/-- **no refill asked for** (`yy_fill_buffer` is 0, as for yy_scan_buffer/string/bytes): nothing is touched; end of file if
    only the end-of-buffer mark (and the yymore() prefix) was matched, else the pending text is to be matched first -/
theorem nextBuf_nofill (s : State) (hP : Pre s) (h5 : s.vars 5 = 0) :
    ∃ s', nextBuf.run s = (s', .returned (if s.vars 0 - s.vars 1 - s.vars 9 = 1 then 1 else 2)) ∧ s'.arr = s.arr ∧
      s'.log = s.log ∧ ∀ y, y ≠ 10 → y ≠ 11 → s'.vars y = s.vars y :=
  nextBuf_correct.nofill s hP h5

/-- **the end of the input was seen before** (YY_BUFFER_EOF_PENDING): the reader is not asked again -/
theorem nextBuf_eof_pending (s : State) (hP : Pre s) (h5 : s.vars 5 ≠ 0) (h6 : s.vars 6 = 2) :
    ∃ s', nextBuf.run s = (s', .returned (retOf s 0)) ∧ Filled s s' 0 ∧ s'.vars 4 = s.vars 4 :=
  nextBuf_correct.eof_pending s hP h5 h6

/-- **the reader is asked**: for at least one byte and at most YY_READ_BUF_SIZE, after the buffer was enlarged if the
    unfinished token left no room; what it delivers is appended to that token -/
theorem nextBuf_read (s : State) (hP : Pre s) (h5 : s.vars 5 ≠ 0) (h6 : s.vars 6 ≠ 2)
    (hcan : s.vars 7 ≠ 0 ∨ 1 ≤ s.vars 4 - ntm s - 1) :
    ∃ s' m, 1 ≤ m ∧ m ≤ s.vars 18 ∧ nextBuf.run s = (s', .returned (retOf s (got s m))) ∧ Filled s s' (got s m) ∧
      Exact s s' m :=
  nextBuf_correct.read s hP h5 h6 hcan

/-- **no room and not ours**: a buffer the scanner does not own cannot be enlarged — the documented fatal error -/
theorem nextBuf_overflow (s : State) (hP : Pre s) (h5 : s.vars 5 ≠ 0) (h6 : s.vars 6 ≠ 2)
    (hours : s.vars 7 = 0) (hfull : s.vars 4 - ntm s - 1 ≤ 0) :
    ∃ s', nextBuf.run s = (s', .fatal 1) ∧ s'.log = s.log :=
  nextBuf_correct.overflow s hP h5 h6 hours hfull

theorem Correct.never_out_of_bounds {prog : St} (hC : Correct prog) (s : State) (hP : Pre s) :
    (prog.run s).2 ≠ .oob ∧ (prog.run s).2 ≠ .fuel := by
  by_cases h5 : s.vars 5 = 0
  · obtain ⟨s', h, _⟩ := hC.nofill s hP h5
    simp [h]
  by_cases h6 : s.vars 6 = 2
  · obtain ⟨s', h, _⟩ := hC.eof_pending s hP h5 h6
    simp [h]
  by_cases hcan : s.vars 7 ≠ 0 ∨ 1 ≤ s.vars 4 - ntm s - 1
  · obtain ⟨s', m, _, _, h, _⟩ := hC.read s hP h5 h6 hcan
    simp [h]
  · obtain ⟨s', h, _⟩ := hC.overflow s hP h5 h6 (by omega) (by omega)
    simp [h]

theorem Correct.eof_only_when_reader_dry {prog : St} (hC : Correct prog) (s : State) (hP : Pre s) (h5 : s.vars 5 ≠ 0)
    (h6 : s.vars 6 ≠ 2) (v : Int) (hret : (prog.run s).2 = .returned v) (hv : v ≠ 0) : s.vars inLen ≤ 0 := by
  by_cases hcan : s.vars 7 ≠ 0 ∨ 1 ≤ s.vars 4 - ntm s - 1
  · obtain ⟨s', m, hm, _, h, _⟩ := hC.read s hP h5 h6 hcan
    -- a value other than 0 is returned only if the reader, asked for `m ≥ 1` bytes, gave none
    have hg : got s m = 0 := Decidable.by_contra fun hg => hv (by simpa [h, retOf, hg] using hret.symm)
    unfold got at hg; omega
  · obtain ⟨s', h, _⟩ := hC.overflow s hP h5 h6 (by omega) (by omega)
    simp [h] at hret

theorem Correct.delivered_is_scanned {prog : St} (hC : Correct prog) (s : State) (hP : Pre s) (h5 : s.vars 5 ≠ 0)
    (h6 : s.vars 6 ≠ 2) (hcan : s.vars 7 ≠ 0 ∨ 1 ≤ s.vars 4 - ntm s - 1) (hin : 1 ≤ s.vars inLen) :
    ∃ (s' : State) (n : Nat), 1 ≤ n ∧ (n : Int) ≤ s.vars inLen ∧ prog.run s = (s', .returned 0) ∧
      s'.arr.take ((ntm s).toNat + n + 2) = (s.arr.drop (s.vars 1).toNat).take (ntm s).toNat ++ chunk s n ++ [0, 0] ∧
      s'.vars 2 = ntm s + n ∧ s'.vars 1 = 0 := by
  obtain ⟨s', m, hm, _, h, hF, _⟩ := hC.read s hP h5 h6 hcan
  have hg : 1 ≤ got s m ∧ (got s m : Int) ≤ s.vars inLen := by unfold got; omega
  exact ⟨s', got s m, hg.1, hg.2, by rw [h, retOf, if_pos (by omega)], hF.data, hF.nchars, hF.text⟩

/-- **C13 for yy_get_next_buffer()**: whatever the buffer size, the fill level, the position and length of the unfinished
    token and whatever the reader delivers within its contract, no cell outside the buffer is read or written (the reader is
    given a window that lies inside it) and both loops end -/
theorem never_out_of_bounds (s : State) (hP : Pre s) : (nextBuf.run s).2 ≠ .oob ∧ (nextBuf.run s).2 ≠ .fuel :=
  nextBuf_correct.never_out_of_bounds s hP

/-- **C03 / C10: no end of file while the reader has input.**  On a buffer that is refilled and has not seen the end of its
    input, yy_get_next_buffer() says "end of file" or "last match" only if the reader, asked for at least one byte,
    delivered none -/
theorem eof_only_when_reader_dry (s : State) (hP : Pre s) (h5 : s.vars 5 ≠ 0) (h6 : s.vars 6 ≠ 2) (v : Int)
    (hret : (nextBuf.run s).2 = .returned v) (hv : v ≠ 0) : s.vars inLen ≤ 0 :=
  nextBuf_correct.eof_only_when_reader_dry s hP h5 h6 v hret hv

/-- **C03: what was delivered is what will be scanned.**  When the reader delivers `n > 0` bytes, the function says "go on",
    and the buffer holds the unfinished token, those `n` bytes in order, and the end marks — nothing lost, nothing repeated -/
theorem delivered_is_scanned (s : State) (hP : Pre s) (h5 : s.vars 5 ≠ 0) (h6 : s.vars 6 ≠ 2)
    (hcan : s.vars 7 ≠ 0 ∨ 1 ≤ s.vars 4 - ntm s - 1) (hin : 1 ≤ s.vars inLen) :
    ∃ (s' : State) (n : Nat), 1 ≤ n ∧ (n : Int) ≤ s.vars inLen ∧ nextBuf.run s = (s', .returned 0) ∧
      s'.arr.take ((ntm s).toNat + n + 2) = (s.arr.drop (s.vars 1).toNat).take (ntm s).toNat ++ chunk s n ++ [0, 0] ∧
      s'.vars 2 = ntm s + n ∧ s'.vars 1 = 0 :=
  nextBuf_correct.delivered_is_scanned s hP h5 h6 hcan hin

/-- the hypotheses are met: a 4-byte buffer holding "abc", the token "bc" unfinished, a reader offering the five bytes "xyz\0\0" -/
def sEx : State :=
  { vars := fun y => if y = 0 then 4 else if y = 1 then 1 else if y = 2 then 3 else if y = 3 then 3 else if y = 4 then 4
                     else if y = 5 then 1 else if y = 6 then 1 else if y = 7 then 1 else if y = 8 then 1 else if y = 18 then 8192
                     else if y = 900 then 5 else if y = 901 then 120 else if y = 902 then 121 else if y = 903 then 122 else 0,
    arr := [97, 98, 99, 0, 0, 0] }

example : Pre sEx := ⟨by decide, by decide, by decide, by decide, by decide, by decide, by decide⟩
/-- one byte of room: one byte is taken -/
example : (nextBuf.run sEx).2 = .returned 0 ∧ (nextBuf.run sEx).1.arr = [98, 99, 120, 0, 0, 0] ∧ (nextBuf.run sEx).1.vars 2 = 3 := by
  decide
/-- the token fills the buffer: it doubles, and the reader is asked for what fits then -/
def sEx2 : State := { sEx with vars := fun y => if y = 1 then 0 else if y = 0 then 5 else if y = 2 then 4 else sEx.vars y,
                                arr := [97, 98, 99, 100, 0, 0] }
example : Pre sEx2 := ⟨by decide, by decide, by decide, by decide, by decide, by decide, by decide⟩
example : (nextBuf.run sEx2).2 = .returned 0 ∧ (nextBuf.run sEx2).1.arr = [97, 98, 99, 100, 120, 121, 122, 0, 0, 2989] ∧
    (nextBuf.run sEx2).1.vars 4 = 8 := by
  decide

end FlexVerif.C03NextBuf
