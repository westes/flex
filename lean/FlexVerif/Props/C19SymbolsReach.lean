/-
  Props/C19SymbolsReach.lean — C19: `%option` word … check_options() … readin(): each word reaches its m4 symbol (see Props/C19Symbols.lean).
-/
import FlexVerif.Props.C19Symbols
namespace FlexVerif.C19Opts
open FlexVerif.Opt FlexVerif.Gen.Options

def reaches1 : List (Stmt × Fld × Bool × Cond) := [
  (O.o_reentrant_on, F.sym_M4_YY_REENTRANT, true, .ff),
  (O.o_reentrant_off, F.sym_M4_YY_REENTRANT, false, .ff),
  (O.o_main_on, F.sym_M4_YY_MAIN, true, .ff),
  (O.o_main_off, F.sym_M4_YY_MAIN, false, .ff),
  (O.o_main_on, F.sym_M4_MODE_YYWRAP, false, .ff),   -- main implies noyywrap
  (O.o_stack_on, F.sym_M4_YY_STACK_USED, true, .ff),
  (O.o_debug_on, F.sym_M4_MODE_DEBUG, true, .ff),
  (O.o_yylineno_on, F.sym_M4_MODE_YYLINENO, true, .ff),
  (O.o_stdinit_on, F.sym_M4_MODE_DO_STDINIT, true, .ff),
  (O.o_array_on, F.sym_M4_MODE_YYTEXT_IS_ARRAY, true, .truthy F.C_plus_plus),   -- overridden for C++
  (O.o_pointer_on, F.sym_M4_MODE_YYTEXT_IS_ARRAY, false, .truthy F.lex_compat),   -- lex compatibility implies %array
  (O.o_read_on, F.sym_M4_MODE_CPP_USE_READ, true, .truthy F.lex_compat),
  (O.o_full_on, F.sym_M4_MODE_REAL_FULLTBL, true, .ff),
  (O.o_fast_on, F.sym_M4_MODE_REAL_FULLSPD, true, .ff),
  (O.o_full_on, F.sym_M4_MODE_INTERACTIVE, false, .ff)]   -- full tables: a batch scanner

theorem options_reach_skeleton_1 : ∀ r ∈ reaches1, ∀ st, Ok st →
    ((pipeline r.1).run st).err.isSome = true ∨ r.2.2.2.eval st = true ∨
      (reachQ r).eval ((pipeline r.1).run st).st = true :=
  reach_sound reaches1 (by decide +kernel)

def reaches2 : List (Stmt × Fld × Bool × Cond) := [
  (O.o_interactive_on, F.sym_M4_MODE_INTERACTIVE, true, .ff),
  (O.o_batch_on, F.sym_M4_MODE_INTERACTIVE, false, .ff),
  (O.o_always_interactive_on, F.sym_M4_YY_ALWAYS_INTERACTIVE, true, .ff),
  (O.o_never_interactive_on, F.sym_M4_YY_NEVER_INTERACTIVE, true, .ff),
  (O.o_ecs_on, F.sym_M4_MODE_USEECS, true, .ff),
  (O.o_ecs_off, F.sym_M4_MODE_USEECS, false, .ff),
  (O.o_meta_ecs_on, F.sym_M4_MODE_USEMECS, true, .ff),
  (O.o_bison_bridge_on, F.sym_M4_YY_BISON_LVAL, true, .ff),
  (O.o_bison_locations_on, F.sym__M4_YY_BISON_LLOC, true, .ff),
  (O.o_bison_locations_on, F.sym_M4_YY_BISON_LVAL, true, .ff),
  (O.o_yywrap_off, F.sym_M4_MODE_YYWRAP, false, .ff),
  (O.o_input_off, F.sym_M4_MODE_NO_YYINPUT, true, .ff),
  (O.o_yyinput_off, F.sym_M4_MODE_NO_YYINPUT, true, .ff),
  (O.o_unput_off, F.sym_M4_YY_NO_YYUNPUT, true, .ff),
  (O.o_unistd_off, F.sym_M4_YY_NO_UNISTD_H, true, .ff)]

theorem options_reach_skeleton_2 : ∀ r ∈ reaches2, ∀ st, Ok st →
    ((pipeline r.1).run st).err.isSome = true ∨ r.2.2.2.eval st = true ∨
      (reachQ r).eval ((pipeline r.1).run st).st = true :=
  reach_sound reaches2 (by decide +kernel)

def reaches3 : List (Stmt × Fld × Bool × Cond) := [
  (O.o_yyread_off, F.sym_M4_MODE_USER_YYREAD, true, .ff),
  (O.o_yypanic_off, F.sym_M4_YY_NO_YYPANIC, true, .ff),
  (O.o_yyalloc_off, F.sym_M4_YY_NO_FLEX_ALLOC, true, .ff),
  (O.o_yyrealloc_off, F.sym_M4_YY_NO_FLEX_REALLOC, true, .ff),
  (O.o_yyfree_off, F.sym_M4_YY_NO_FLEX_FREE, true, .ff),
  (O.o_yy_push_state_off, F.sym_M4_YY_NO_PUSH_STATE, true, .ff),
  (O.o_yy_pop_state_off, F.sym_M4_YY_NO_POP_STATE, true, .ff),
  (O.o_yy_top_state_off, F.sym_M4_YY_NO_TOP_STATE, true, .ff),
  (O.o_yy_scan_buffer_off, F.sym_M4_YY_NO_SCAN_BUFFER, true, .ff),
  (O.o_yy_scan_bytes_off, F.sym_M4_YY_NO_SCAN_BYTES, true, .ff),
  (O.o_yy_scan_string_off, F.sym_M4_YY_NO_SCAN_STRING, true, .ff),
  (O.o_yyget_extra_off, F.sym_M4_YY_NO_GET_EXTRA, true, .ff),
  (O.o_yyset_extra_off, F.sym_M4_YY_NO_SET_EXTRA, true, .ff),
  (O.o_yyget_leng_off, F.sym_M4_YY_NO_GET_LENG, true, .ff),
  (O.o_yyget_text_off, F.sym_M4_YY_NO_GET_TEXT, true, .ff)]

theorem options_reach_skeleton_3 : ∀ r ∈ reaches3, ∀ st, Ok st →
    ((pipeline r.1).run st).err.isSome = true ∨ r.2.2.2.eval st = true ∨
      (reachQ r).eval ((pipeline r.1).run st).st = true :=
  reach_sound reaches3 (by decide +kernel)

def reaches4 : List (Stmt × Fld × Bool × Cond) := [
  (O.o_yyget_lineno_off, F.sym_M4_YY_NO_GET_LINENO, true, .ff),
  (O.o_yyset_lineno_off, F.sym_M4_YY_NO_SET_LINENO, true, .ff),
  (O.o_yyget_in_off, F.sym_M4_YY_NO_GET_IN, true, .ff),
  (O.o_yyset_in_off, F.sym_M4_YY_NO_SET_IN, true, .ff),
  (O.o_yyget_out_off, F.sym_M4_YY_NO_GET_OUT, true, .ff),
  (O.o_yyset_out_off, F.sym_M4_YY_NO_SET_OUT, true, .ff),
  (O.o_yyget_lval_off, F.sym_M4_YY_NO_GET_LVAL, true, .ff),
  (O.o_yyset_lval_off, F.sym_M4_YY_NO_SET_LVAL, true, .ff),
  (O.o_yyget_lloc_off, F.sym_M4_YY_NO_GET_LLOC, true, .ff),
  (O.o_yyset_lloc_off, F.sym_M4_YY_NO_SET_LLOC, true, .ff),
  (O.o_yyget_debug_off, F.sym_M4_YY_NO_GET_DEBUG, true, .ff),
  (O.o_yyset_debug_off, F.sym_M4_YY_NO_SET_DEBUG, true, .ff)]

theorem options_reach_skeleton_4 : ∀ r ∈ reaches4, ∀ st, Ok st →
    ((pipeline r.1).run st).err.isSome = true ∨ r.2.2.2.eval st = true ∨
      (reachQ r).eval ((pipeline r.1).run st).st = true :=
  reach_sound reaches4 (by decide +kernel)

end FlexVerif.C19Opts
