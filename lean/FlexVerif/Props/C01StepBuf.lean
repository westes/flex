/-
  Props/C01StepBuf.lean — C01 / C03: what the translated `yy_get_previous_state()` computes (`C01Step.walk`, a fold of
  the decoder's step over the buffer cells) is what the buffer machine `Runtime/Buf.lean` calls `prevState` when it is
  instantiated with the emitted tables (`tableDFA`, `Runtime/BufTable.lean`): after a refill the machine "recomputes the
  state from the moved text" with exactly the function the code has been proved to compute.
-/
import FlexVerif.Props.C01Step
import FlexVerif.Runtime.BufTable
namespace FlexVerif.C01StepBuf
open FlexVerif.C01Step

/-- the buffer machine's recomputation of the state, from an arbitrary state -/
def prevFrom (T : Tables) (interactive : Bool) (st : DState) (text : List UInt8) : Option DState :=
  text.foldl (fun s c => s.bind fun s => (tableDFA T interactive).step s c) (some st)

theorem prevFrom_start (T : Tables) (interactive bol : Bool) (text : List UInt8) :
    Buf.prevState (tableDFA T interactive) bol text = prevFrom T interactive ((tableDFA T interactive).start bol) text := rfl

theorem walk_prevFrom (T : Tables) (hk : T.kind = .compressed) (he : T.useEcs = true) (hnt : T.hasNulTrans = false)
    (interactive : Bool) : ∀ (bytes : List UInt8) (cur n : Int),
    walk T cur (bytes.map fun b => (b.toNat : Int)) = some n → prevFrom T interactive (.st cur) bytes = some (.st n) := by
  intro bytes
  induction bytes with
  | nil => intro cur n h; cases h; rfl
  | cons b rest ih =>
    intro cur n h
    rw [List.map_cons, walk_eq] at h
    obtain ⟨n1, -, hcs, h'⟩ := C01StepGen.walkOf_cons h
    have hd : (tableDFA T interactive).step (.st cur) b = some (.st n1) := by
      have : T.stepByte cur b = .st n1 := (cellStep_eq_stepByte T hk he hnt cur b).symm.trans hcs
      simp only [tableDFA, Tables.step, this]
    rw [← walk_eq] at h'
    simpa only [prevFrom, List.foldl_cons, Option.bind, hd] using ih n1 n h'

/-- **yy_try_NUL_trans() and the machine's step on a NUL**: the value returned is the next state of `tableDFA` on byte 0,
    or 0 where that automaton has no transition -/
theorem nulTrans_tableDFA (T : Tables) (hk : T.kind = .compressed) (hm : T.useMecs = true) (hnt : T.hasNulTrans = false)
    (interactive : Bool) (s : Imp.State) (hT : TablesIn s T) (ha : rd T.accept (s.vars 0) ≠ none)
    (hnb : T.stepByte (s.vars 0) 0 ≠ .bad) :
    ∃ s', Gen.PrevState.nulTrans.run s =
        (s', .returned (match (tableDFA T interactive).step (.st (s.vars 0)) 0 with | some (.st n) => n | _ => 0)) := by
  obtain ⟨s', h, _, _⟩ := nulTrans_spec T hk hm hnt s hT ha hnb
  refine ⟨s', ?_⟩
  rw [h]
  congr 2
  simp only [tableDFA, Tables.step]
  cases hs : T.stepByte (s.vars 0) 0 with
  | bad => exact absurd hs hnb
  | jam => rfl
  | st n => rfl

end FlexVerif.C01StepBuf
