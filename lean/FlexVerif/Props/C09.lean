/-
  Props/C09.lean — yylineno.  In the abstract scanner the quantity
      yylineno + (number of newlines still unread in the current buffer)
  is conserved by matching a token (with or without trailing context / yymore prefix), by
  yyless, by yyunput of any character and by yyinput — i.e. yylineno is always
  1 + (newlines of the input) − (newlines not yet consumed), where text returned by yyless or
  belonging to trailing context counts as not consumed, each yyunput of a newline subtracts one
  and each newline read by yyinput adds one.  (Non-reentrant scanner: one global counter.)

  Each proof puts two facts together: what the operation leaves unread (`Props/C08.lean`), and by
  how much it moves the counter.
-/
import FlexVerif.Props.C08
namespace FlexVerif
open AState

theorem countNl_append (a b : List UInt8) : countNl (a ++ b) = countNl a + countNl b := by
  simp [countNl, List.filter_append]

theorem countNl_take_drop (n : Nat) (l : List UInt8) : countNl (l.take n) + countNl (l.drop n) = countNl l := by
  rw [← countNl_append, List.take_append_drop]

theorem countNl_cons (x : UInt8) (l : List UInt8) :
    countNl (x :: l) = (if x = 10 then 1 else 0) + countNl l := by
  unfold countNl
  by_cases h : x = 10
  · simp [h]; omega
  · simp [h]

def lnTotal (s : AState) : Int := s.lineno + (countNl s.curBuf.pending : Int)

theorem lnTotal_eq {t : AState} {n : Int} {l : List UInt8} (hn : t.lineno = n) (hu : unread t = l) :
    lnTotal t = n + (countNl l : Int) := by
  rw [← hn, ← hu]; rfl

theorem lnTotal_setCurBuf (s : AState) (b : ABuf) (h : s.HasCur) :
    lnTotal (s.setCurBuf b) = s.lineno + (countNl b.pending : Int) :=
  lnTotal_eq (by rw [setCurBuf_eq]) (unread_setCurBuf h)

variable (cfg : Cfg) (hl : cfg.hasLineno = true) (hr : cfg.reentrant = false)
include hl hr

theorem addLineno_global (s : AState) (d : Int) : s.addLineno cfg d = { s with lineno := s.lineno + d } := by
  simp [AState.addLineno, hl, hr]

theorem lnTotal_addLineno (s : AState) (d : Int) : lnTotal (s.addLineno cfg d) = lnTotal s + d :=
  (congrArg lnTotal (addLineno_global cfg hl hr s d)).trans (Int.add_right_comm ..)

/-- **matching a token conserves the total**: the counter advances by exactly the newlines of
    the text handed to the action (`headLen` bytes: trailing context is not consumed) -/
theorem beginMatch_lnTotal (M : Matcher) (s : AState) (inp : List UInt8) (len rule : Nat) (p : List UInt8)
    (h : s.HasCur) (hp : s.curBuf.pending = inp)
    (hfit : (cfg.yylmax != 0 && decide (p.length + M.fitLen rule len inp ≥ cfg.yylmax)) = false) :
    lnTotal (beginMatch M cfg s inp len rule p) = lnTotal s := by
  have hn : (beginMatch M cfg s inp len rule p).lineno = s.lineno + countNl (inp.take (M.headLen rule len inp)) := by
    simp only [beginMatch, hfit, Bool.false_eq_true, if_false]
    rw [addLineno_global cfg hl hr, setCurBuf_eq]; rfl
  rw [lnTotal_eq hn (match_conserves M cfg s inp len rule p h hfit).2.1, lnTotal, hp,
    ← countNl_take_drop (M.headLen rule len inp) inp]
  omega

/-- **yyless conserves the total**: the newlines of the returned text are taken back -/
theorem less_lnTotal (M : Matcher) (s : AState) (n : Nat) (h : s.HasCur) (hh : s.halted = false) :
    lnTotal (runAction M cfg s [.less n]).1 = lnTotal s := by
  have hn : (runAction M cfg s [.less n]).1.lineno =
      s.lineno + -(countNl (s.text.drop (s.morePrefix + n % (s.text.length - s.morePrefix + 1))) : Int) := by
    simp only [runAction, hh, Bool.false_eq_true, if_false]
    rw [addLineno_global cfg hl hr, setCurBuf_eq]; rfl
  rw [lnTotal_eq hn (less_unread M cfg s n h hh), countNl_append, lnTotal, unread]
  omega

/-- **yyunput conserves the total**: pushing back a newline subtracts one -/
theorem unput_lnTotal (M : Matcher) (s : AState) (c : Nat) (hc : c < 256) (h : s.HasCur)
    (hh : s.halted = false) :
    lnTotal (runAction M cfg s [.unput c]).1 = lnTotal s := by
  have h10 : (UInt8.ofNat c = 10) ↔ c = 10 :=
    ⟨fun e => by have := congrArg UInt8.toNat e; rwa [UInt8.toNat_ofNat_of_lt' hc] at this, fun e => e ▸ rfl⟩
  have hn : (runAction M cfg s [.unput c]).1.lineno = s.lineno + if c = 10 then -1 else 0 := by
    simp only [runAction, hh, Bool.false_eq_true, if_false, beq_iff_eq]
    split
    · rw [addLineno_global cfg hl hr, setCurBuf_eq]
    · rw [setCurBuf_eq]; exact (Int.add_zero _).symm
  rw [lnTotal_eq hn (unput_conserves M cfg s c h hh), countNl_cons, lnTotal, unread]
  simp only [h10]
  split <;> omega

/-- **yyinput conserves the total**: reading a newline adds one -/
theorem input_lnTotal (s : AState) (fuel : Nat) (h : s.HasCur) (c : UInt8) (rest : List UInt8)
    (hp : s.curBuf.pending = c :: rest) :
    lnTotal (inputOp cfg s (fuel + 1)) = lnTotal s := by
  have hn : (inputOp cfg s (fuel + 1)).lineno = s.lineno + if c = 10 then 1 else 0 := by
    simp only [inputOp, ensureBuf_of_hasCur h, hp, beq_iff_eq]
    split
    · rw [addLineno_global cfg hl hr, setCurBuf_eq]; rfl
    · rw [setCurBuf_eq]; exact (Int.add_zero _).symm
  rw [lnTotal_eq hn (input_conserves cfg s fuel h c rest hp).1, lnTotal, hp, countNl_cons]
  split <;> omega

/-- non-vacuity: a state with a current buffer -/
example : ({ bufs := #[{ pending := [10, 97] }], cur := some 0 } : AState).HasCur := ⟨0, rfl, by decide⟩

end FlexVerif
