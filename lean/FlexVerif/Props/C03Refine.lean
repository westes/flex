/-
  Props/C03Refine.lean — C03: the translated `yy_get_next_buffer()` (default and c99 skeleton) **refines the
  refill step of the hand-written buffer machine** `Runtime/Buf.lean`, the machine `Buf.run_tokens` is about.
  Whenever the code's state represents the machine's (`Rep`) and the reader offers what the machine's reader returns
  (`Offers`), the translated function returns what the machine's step says — CONTINUE_SCAN / END_OF_FILE /
  LAST_MATCH — and leaves a state that represents the machine's next state: same buffer contents, same size after
  the same doubling, same read request.
-/
import FlexVerif.Props.C03NextBuf
import FlexVerif.Props.C03NextBufC99
import FlexVerif.Runtime.Buf
import FlexVerif.Runtime.BufProofs
namespace FlexVerif.C03Refine
open FlexVerif.Imp FlexVerif.C03NextBuf FlexVerif.Buf

def cell (b : UInt8) : Int := (b.toNat : Int)

theorem growSize_eq : ∀ (fuel size p : Nat), growSize size p fuel = growTo size p fuel
  | 0, _, _ => rfl
  | fuel + 1, size, p => by
    simp only [growSize, growTo]
    split
    · rfl
    · exact growSize_eq fuel _ p

/-- the code's state represents the machine's when the match loop has run into the end of the buffer with `q`
    characters (yymore() prefix included) of the unfinished token in it -/
structure Rep (s : State) (st : BState) (q : Nat) : Prop where
  buf : s.arr.take st.buf.length = st.buf.map cell
  nchars : s.vars 2 = st.buf.length
  size : s.vars 4 = st.size
  tok : s.vars 1 = st.tok
  pos : s.vars 0 = (st.buf.length : Int) + 1
  q_eq : st.tok + q = st.buf.length
  fill : s.vars 5 ≠ 0
  ours : s.vars 7 ≠ 0
  status : s.vars 6 = 2 ↔ st.eofPending = true
  rbs : s.vars 18 = readBufSize
  len : (s.arr.length : Int) = s.vars 4 + 2
  fits : st.buf.length ≤ st.size
  size_pos : 1 ≤ st.size

/-- the reader seen from the code offers what the machine's reader returns for the request the machine computes -/
structure Offers (s : State) (st : BState) (q : Nat) (rd : Reader) : Prop where
  len : s.vars inLen = rd st.calls (min (growTo st.size q (q + 2) - q - 1) readBufSize) st.src.length
  bytes : ∀ i b, st.src[i]? = some b → s.vars (inByte i) = cell b

/-- what the code's state says about the machine's afterwards -/
structure Rep' (s' : State) (st' : BState) : Prop where
  buf : s'.arr.take st'.buf.length = st'.buf.map cell
  mark0 : s'.arr[st'.buf.length]? = some 0
  mark1 : s'.arr[st'.buf.length + 1]? = some 0
  nchars : s'.vars 2 = st'.buf.length
  bufn : s'.vars 3 = st'.buf.length
  size : s'.vars 4 = st'.size
  tok : s'.vars 1 = st'.tok
  len : (s'.arr.length : Int) = s'.vars 4 + 2
  fits : st'.buf.length ≤ st'.size

theorem pre_of_rep {s : State} {st : BState} {q : Nat} (h : Rep s st q) : Pre s := by
  have := h.nchars; have := h.size; have := h.tok; have := h.pos; have := h.q_eq; have := h.fits; have := h.size_pos
  exact ⟨h.len, by omega, by omega, by omega, by omega, by omega, by rw [h.rbs]; decide⟩

theorem ntm_of_rep {s : State} {st : BState} {q : Nat} (h : Rep s st q) : ntm s = q := by
  have := h.tok; have := h.pos; have := h.q_eq; unfold ntm; omega

theorem split_marks (l D : List Int) (h : l.take (D.length + 2) = D ++ [0, 0]) :
    l.take D.length = D ∧ l[D.length]? = some 0 ∧ l[D.length + 1]? = some 0 := by
  have h1 := take_concat_iff.mp (show l.take ((D ++ [0]).length + 1) = (D ++ [0]) ++ [0] by simpa using h)
  rw [List.length_append] at h1
  exact ⟨(take_concat_iff.mp h1.1).1, (take_concat_iff.mp h1.1).2, h1.2⟩

theorem part_eq {s : State} {st : BState} {q : Nat} (h : Rep s st q) :
    (s.arr.drop (s.vars 1).toNat).take q = ((st.buf.drop st.tok).take q).map cell := by
  have ht : (s.vars 1).toNat = st.tok := by rw [h.tok]; rfl
  rw [ht, List.map_take, List.map_drop, ← h.buf, List.drop_take, ← h.q_eq, Nat.add_sub_cancel_left, List.take_take,
    Nat.min_self]

theorem chunk_eq {s : State} {st : BState} {q : Nat} {rd : Reader} (hO : Offers s st q rd) (k : Nat) (hk : k ≤ st.src.length) :
    chunk s k = (st.src.take k).map cell := by
  apply List.ext_getElem
  · rw [chunk_length, List.length_map, List.length_take, Nat.min_eq_left hk]
  · intro i hi _
    rw [chunk_length] at hi
    simp only [chunk, List.getElem_map, List.getElem_range, List.getElem_take]
    exact hO.bytes i _ (List.getElem?_eq_getElem (Nat.lt_of_lt_of_le hi hk))

theorem rep'_of_filled {s s' : State} {st st' : BState} {q n : Nat} {rd : Reader} (hR : Rep s st q) (hF : Filled s s' n)
    (hO : Offers s st q rd) (hn : n ≤ st.src.length) (hbuf : st'.buf = (st.buf.drop st.tok).take q ++ st.src.take n)
    (htok : st'.tok = 0) (hsize : s'.vars 4 = st'.size) : Rep' s' st' := by
  have hq := ntm_of_rep hR
  have hl : (st'.buf.map cell).length = q + n := by
    rw [List.length_map, hbuf, List.length_append, List.length_take, List.length_take, List.length_drop, ← hR.q_eq,
      Nat.add_sub_cancel_left, Nat.min_self, Nat.min_eq_left hn]
  have hd := hF.data
  rw [hq, Int.toNat_natCast, part_eq hR, chunk_eq hO n hn, ← List.map_append, ← hbuf, ← hl] at hd
  obtain ⟨d1, d2, d3⟩ := split_marks _ _ hd
  rw [List.length_map] at d1 d2 d3 hl
  have hn' := hF.nchars; have hb := hF.bufn; have hf := hF.fits
  rw [hq] at hn' hb hf
  exact ⟨d1, d2, d3, by rw [hn', hl, Int.natCast_add], by rw [hb, hl, Int.natCast_add], hsize, by rw [hF.text, htok]; rfl, hF.len,
    Int.ofNat_le.mp (by rw [hl, Int.natCast_add, ← hsize]; exact hf)⟩

theorem request_eq {G q r : Nat} (h : q + 2 ≤ G) : min (r : Int) ((G : Int) - q - 1) = ((min (G - q - 1) r : Nat) : Int) := by
  omega

/-- **refinement**: a translation of yy_get_next_buffer() that meets `Correct` does the machine's `refill` -/
theorem refines_refill {prog : St} (hC : Correct prog) (s : State) (st : BState) (q : Nat) (rd : Reader)
    (hR : Rep s st q) (hrd : rd.OK) (hO : Offers s st q rd) :
    ∃ s', prog.run s = (s', .returned (retOf s (refill rd st q).2)) ∧ Rep' s' (refill rd st q).1 := by
  have hP := pre_of_rep hR
  have hq := ntm_of_rep hR
  by_cases he : st.eofPending = true
  · obtain ⟨s', hrun, hF, h4⟩ := hC.eof_pending s hP hR.fill (hR.status.mpr he)
    simp only [refill, he, if_true]
    exact ⟨s', hrun, rep'_of_filled hR hF hO (Nat.zero_le _) (by simp) rfl (h4.trans hR.size)⟩
  · obtain ⟨s', m, _, _, hrun, hF, hE⟩ := hC.read s hP hR.fill (fun h => he (hR.status.mp h)) (.inl hR.ours)
    -- both arrive at the same size, so at the same request, and the reader's answer is what the code takes
    have hs4 : s'.vars 4 = (growTo st.size q (q + 2) : Nat) := by
      have h := hE.size
      rw [hR.size, hq, Int.toNat_natCast, Int.toNat_natCast, growSize_eq] at h
      rw [← h, Int.toNat_of_nonneg (Int.le_trans (hR.size ▸ Int.natCast_nonneg _) hF.size_le)]
    have hm := hE.asked
    have hin := hO.len
    rw [hR.rbs, hq, hs4, request_eq (growTo_ge q (q + 2) st.size (Nat.le_add_right ..))] at hm
    simp only [refill, he, Bool.false_eq_true, if_false]
    obtain ⟨hk1, hk2, _⟩ := hrd st.calls (min (growTo st.size q (q + 2) - q - 1) readBufSize) st.src.length
    generalize rd st.calls _ st.src.length = k at hin hk1 hk2 ⊢
    have hgot : got s m = k := by rw [got, hin, hm, Int.toNat_natCast, Int.toNat_natCast, Nat.min_eq_left hk1]
    rw [hgot] at hrun hF
    exact ⟨s', hrun, rep'_of_filled hR hF hO hk2 rfl rfl hs4⟩

theorem nextBuf_refines_refill (s : State) (st : BState) (q : Nat) (rd : Reader) (hR : Rep s st q) (hrd : rd.OK)
    (hO : Offers s st q rd) :
    ∃ s', Gen.NextBuf.nextBuf.run s = (s', .returned (retOf s (refill rd st q).2)) ∧ Rep' s' (refill rd st q).1 :=
  refines_refill nextBuf_correct s st q rd hR hrd hO

theorem nextBuf99_refines_refill (s : State) (st : BState) (q : Nat) (rd : Reader) (hR : Rep s st q) (hrd : rd.OK)
    (hO : Offers s st q rd) :
    ∃ s', Gen.NextBufC99.nextBuf.run s = (s', .returned (retOf s (refill rd st q).2)) ∧ Rep' s' (refill rd st q).1 :=
  refines_refill C03NextBufC99.nextBuf99_correct s st q rd hR hrd hO

/-- the value returned is the one the machine's match loop branches on: nothing read and nothing but the yymore() prefix
    pending (END_OF_FILE = 1), nothing read (LAST_MATCH = 2), something read (CONTINUE_SCAN = 0) -/
theorem retOf_cases (s : State) (st : BState) (p : Nat) (hR : Rep s st (st.pre + p)) (h9 : s.vars 9 = st.pre) (k : Nat) :
    retOf s k = if k = 0 then (if p = 0 then 1 else 2) else 0 := by
  have := ntm_of_rep hR
  unfold retOf
  by_cases hk : k = 0
  · by_cases hp : p = 0
    · simp [hk, hp, this, h9]
    · have : ntm s ≠ s.vars 9 := by omega
      simp [hk, hp, this]
  · simp [hk]

-- the hypotheses are met: `sEx` of `C03NextBuf.lean` (buffer "abc", token "bc" unfinished, a reader with the five bytes "xyz\0\0")
-- represents a machine state with those bytes as `src`; `sEx3`, whose reader has the one byte "x", also offers what the machine's does
example : Rep sEx { buf := [97, 98, 99], size := 4, tok := 1, src := [120, 121, 122, 0, 0] } 2 :=
  ⟨by decide, by decide, by decide, by decide, by decide, by decide, by decide, by decide, by decide, by decide, by decide,
   by decide, by decide⟩

def sEx3 : State := { sEx with vars := fun y => if y = 900 then 1 else sEx.vars y }
example : Rep sEx3 { buf := [97, 98, 99], size := 4, tok := 1, src := [120] } 2 :=
  ⟨by decide, by decide, by decide, by decide, by decide, by decide, by decide, by decide, by decide, by decide, by decide,
   by decide, by decide⟩
example : Offers sEx3 { buf := [97, 98, 99], size := 4, tok := 1, src := [120] } 2 (schedReader []) :=
  ⟨by decide, fun i b h => by
    match i, h with
    | 0, h => simp at h; subst h; decide
    | i + 1, h => simp at h⟩
example : Reader.OK (schedReader []) := schedReader_OK []

end FlexVerif.C03Refine
