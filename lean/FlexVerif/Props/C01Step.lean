/-
  Props/C01Step.lean — C01 for the default scanner (-Cem, `Gen/PrevState.lean`): its two functions are the programs
  `prevStateOf stepBody classE` / `nulTransOf stepBody` of `Props/C01StepGen.lean`, where this namespace begins, and
  the theorems here are instances of the ones proved there.  `cellStep` and `walk` read `yy_ec` as this code does,
  whatever the tables' `useEcs` says.
-/
import FlexVerif.Props.C01StepGen
namespace FlexVerif.C01Step
open FlexVerif.Imp FlexVerif.Gen.PrevState

@[simp] theorem setVar_arr (s : State) (x : Nat) (v : Int) : (setVar s x v).arr = s.arr := rfl
@[simp] theorem setVar_log (s : State) (x : Nat) (v : Int) : (setVar s x v).log = s.log := rfl

-- `loopOf stepBody`, `.assign 2 classE` and `forBodyOf stepBody classE` of `C01StepGen`, written out (variable 5004 is `tabLen 4`,
-- the length of `yy_def`)
def stepLoop : St := .whileB (.add (.var 5004) (.lit 2)) stepCond stepBody
def classOfCell : St := .assign 2 (.cond (.idx (.var 1)) (.tab 0 (.idx (.var 1))) (.var 10))
def forBody : St := .seq (.seq classOfCell (.seq saveAcc (.seq stepLoop stepNxt))) (.assign 1 (.add (.var 1) (.lit 1)))

theorem prevState_shape :
    prevState = .seq (.assign 0 (.var 6)) (.seq (.seq (.assign 1 (.add (.var 3) (.var 4))) (.while_ forCond forBody)) (.ret (.var 0))) := rfl
theorem nulTrans_shape :
    nulTrans = .seq (.assign 1 (.var 5)) (.seq (.assign 2 (.var 10)) (.seq saveAcc (.seq stepLoop (.seq stepNxt
      (.seq (.assign 9 (.eq (.var 0) (.var 11))) (.ret (.cond (.var 9) (.lit 0) (.var 0)))))))) := rfl

theorem comp_code (T : Tables) (hm : T.useMecs = true) : ∀ (fuel : Nat) (s : State) (f : Nat), TablesIn s T → fuel ≤ f →
    T.compStep fuel (s.vars 0) (s.vars 2) ≠ .bad →
    ∃ s1, loop (fun s' => stepCond.eval s') (fun s' => stepBody.run s') f s = (s1, .normal) ∧
      stepNxt.run s1 = (setVar s1 0 (valOf T (T.compStep fuel (s.vars 0) (s.vars 2))), .normal) ∧
      TablesIn s1 T ∧ (∀ y, y ≠ 0 → y ≠ 2 → s1.vars y = s.vars y) ∧ s1.arr = s.arr ∧ s1.log = s.log :=
  C01StepGen.comp_code T stepBody (C01StepGen.bodyM_ok T hm)

theorem step_code (T : Tables) (hm : T.useMecs = true) (s : State) (hT : TablesIn s T)
    (hnb : T.compStep (T.deflt.size + 2) (s.vars 0) (s.vars 2) ≠ .bad) :
    ∃ s1, (St.seq stepLoop stepNxt).run s =
        (setVar s1 0 (valOf T (T.compStep (T.deflt.size + 2) (s.vars 0) (s.vars 2))), .normal) ∧
      TablesIn s1 T ∧ (∀ y, y ≠ 0 → y ≠ 2 → s1.vars y = s.vars y) ∧ s1.arr = s.arr ∧ s1.log = s.log :=
  C01StepGen.step_code T stepBody (C01StepGen.bodyM_ok T hm) s hT hnb

/-- **yy_try_NUL_trans()** computes the decoder's transition on a NUL: 0 when it jams, else the next state -/
theorem nulTrans_spec (T : Tables) (hk : T.kind = .compressed) (hm : T.useMecs = true) (hnt : T.hasNulTrans = false)
    (s : State) (hT : TablesIn s T) (ha : rd T.accept (s.vars 0) ≠ none) (hnb : T.stepByte (s.vars 0) 0 ≠ .bad) :
    ∃ s', nulTrans.run s = (s', .returned (match T.stepByte (s.vars 0) 0 with | .st n => n | _ => 0)) ∧
      s'.arr = s.arr ∧ s'.log = s.log :=
  nulTrans_shape ▸ C01StepGen.nulTrans_spec T stepBody (C01StepGen.bodyM_ok T hm) hk hnt s hT ha hnb

def cellStep (T : Tables) (cur b : Int) : DState :=
  if b = 0 then T.compStep (T.deflt.size + 2) cur T.nulEc
  else match rd T.ec b with
    | none => .bad
    | some c => T.compStep (T.deflt.size + 2) cur c

theorem cellStep_eq_stepByte (T : Tables) (hk : T.kind = .compressed) (he : T.useEcs = true) (hnt : T.hasNulTrans = false)
    (cur : Int) (b : UInt8) : cellStep T cur (b.toNat : Int) = T.stepByte cur b := by
  rw [← C01StepGen.cellStep_eq_stepByte T hk hnt]
  simp only [C01StepGen.cellStep, he, if_true]
  rfl

def walk (T : Tables) : Int → List Int → Option Int
  | cur, [] => some cur
  | cur, b :: rest =>
    match rd T.accept cur, cellStep T cur b with
    | some _, .st n => walk T n rest
    | _, _ => none

theorem walk_eq (T : Tables) (cells : List Int) : ∀ cur, walk T cur cells = C01StepGen.walkOf T (rd T.ec) cur cells := by
  induction cells with
  | nil => exact fun _ => rfl
  | cons b rest ih =>
    intro cur
    simp only [walk, C01StepGen.walkOf, ih]
    rfl

theorem for_loop (T : Tables) (hm : T.useMecs = true) : ∀ (cells : List Int) (s : State) (cp : Nat) (fuel : Nat) (n : Int),
    TablesIn s T → s.vars 1 = cp → s.vars 5 = ((cp + cells.length : Nat) : Int) →
    (s.arr.drop cp).take cells.length = cells → cp + cells.length ≤ s.arr.length →
    walk T (s.vars 0) cells = some n → cells.length + 1 ≤ fuel →
    ∃ s', loop (fun x => forCond.eval x) (fun x => forBody.run x) fuel s = (s', .normal) ∧ s'.vars 0 = n ∧
      s'.arr = s.arr ∧ s'.log = s.log := by
  intro cells s cp fuel n hT h1 h5 hcells _ hw
  exact C01StepGen.for_loop_of (C01StepGen.bodyM_ok T hm) C01StepGen.classE_eval cells s cp _ fuel n hT h1 h5 rfl hcells
    (walk_eq T cells _ ▸ hw)

/-- **yy_get_previous_state()** returns the state the decoder's steps lead to over the text between
    `yytext_ptr + YY_MORE_ADJ` and `yy_c_buf_p`, reading every table inside its bounds -/
theorem prevState_spec (T : Tables) (hm : T.useMecs = true) (s : State) (hT : TablesIn s T) (t0 len : Nat) (n : Int)
    (ht : s.vars 3 + s.vars 4 = t0) (he : s.vars 5 = ((t0 + len : Nat) : Int)) (hin : t0 + len ≤ s.arr.length)
    (hw : walk T (s.vars 6) ((s.arr.drop t0).take len) = some n) :
    ∃ s', prevState.run s = (s', .returned n) ∧ s'.arr = s.arr ∧ s'.log = s.log :=
  prevState_shape ▸ C01StepGen.prevState_spec_of (C01StepGen.bodyM_ok T hm) C01StepGen.classE_eval s hT t0 len n ht he
    hin (walk_eq T _ _ ▸ hw)

end FlexVerif.C01Step
