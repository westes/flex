/-
  Props/C18.lean — why the generator's output cannot depend on the `qsort` implementation:
  every comparator flex hands to `qsort` orders its elements by an injective key, and the sorted
  arrangement of a multiset under such an order is unique.
-/
namespace FlexVerif

/-- `intcmp` (misc.c): plain integer order -/
def intcmpLe (a b : Int) : Prop := a ≤ b

/-- `cclcmp` (misc.c): unsigned characters, with NUL sorting last -/
def cclKey (c : Nat) : Nat := if c = 0 then 256 else c
def cclcmpLe (a b : Nat) : Prop := cclKey a ≤ cclKey b

theorem cclKey_inj {a b : Nat} (ha : a < 256) (hb : b < 256) (h : cclKey a = cclKey b) : a = b := by
  unfold cclKey at h
  split at h <;> split at h
  · rename_i h1 h2; rw [h1, h2]
  · exact absurd (h ▸ hb) (Nat.lt_irrefl _)
  · exact absurd (h ▸ ha) (Nat.lt_irrefl _)
  · exact h

/-- **Any two correct sorts of the same integers agree** (so the result does not depend on how
    the C library's qsort breaks ties or permutes). -/
theorem intcmp_sorted_unique (l l1 l2 : List Int) (p1 : l1.Perm l) (p2 : l2.Perm l)
    (s1 : l1.Pairwise intcmpLe) (s2 : l2.Pairwise intcmpLe) : l1 = l2 := by
  apply List.Perm.eq_of_pairwise (le := intcmpLe) _ s1 s2 (p1.trans p2.symm)
  intro a b _ _ hab hba
  unfold intcmpLe at hab hba
  omega

/-- the same for character classes sorted with `cclcmp` -/
theorem cclcmp_sorted_unique (l l1 l2 : List Nat) (hl : ∀ c ∈ l, c < 256) (p1 : l1.Perm l) (p2 : l2.Perm l)
    (s1 : l1.Pairwise cclcmpLe) (s2 : l2.Pairwise cclcmpLe) : l1 = l2 := by
  apply List.Perm.eq_of_pairwise (le := cclcmpLe) _ s1 s2 (p1.trans p2.symm)
  intro a b ha hb hab hba
  unfold cclcmpLe at hab hba
  exact cclKey_inj (hl a (p1.subset ha)) (hl b (p2.subset hb)) (by omega)

/-- non-vacuity -/
example : [(1 : Int), 3, 3, 7].Pairwise intcmpLe := by unfold intcmpLe; decide

end FlexVerif
