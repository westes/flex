/-
  Props/C07Reject.lean — C07: the REJECT machinery of the generated scanner.  `tools/fv/gen_reject.py` translates the
  code from `yy_find_action:` to YY_DO_BEFORE_ACTION (pop a state, the `find_rule` loop) and the macro `yyreject()`
  from a scanner flex has just generated for a rule set with REJECT (`Gen/Reject.lean`).  The array is
  `yy_state_buf` — the automaton state after 0, 1, 2, … characters of the token —, `yy_accept`/`yy_acclist` are
  read-only tables.  Proved for every state stack and every pair of tables whose entries are in range: the first
  action run and each one run by a further `yyreject()` are, in order, the entries of `remaining`, with
  `yy_cp`/`yy_full_match` the end of the prefix matched, and no read is out of bounds.  `remaining` goes through the
  states' `yy_acclist` slices, longest prefix first; the slices are what the decoder `Tables.acceptOf` returns
  (`remaining_all`), which the validator proves equal to the specification's rule lists.
-/
import FlexVerif.Imp.Lemmas
import FlexVerif.Gen.Reject
import FlexVerif.Imp.Tables
namespace FlexVerif.C07Reject
open FlexVerif.Imp FlexVerif.Gen.Reject FlexVerif.C01Step

/-- `hiOf`, `loOf`: `yy_accept[stk[i] + 1]` and `yy_accept[stk[i]]`, where the `yy_acclist` slice of the `i`-th state on the stack ends
    and starts (0 for an index outside `yy_accept`) -/
def hiOf (acc : Array Int) (stk : List Int) (i : Nat) : Int := (rd acc (stk.getD i 0 + 1)).getD 0
def loOf (acc : Array Int) (stk : List Int) (i : Nat) : Int := (rd acc (stk.getD i 0)).getD 0

/-- what is left of one state's slice of `yy_acclist` from index `lp` on, offered at end position `cp` -/
def here (acl : Array Int) (hi lp cp : Int) : List (Int × Int) :=
  if lp ≠ 0 then ((acl.toList.drop lp.toNat).take (hi.toNat - lp.toNat)).map (fun r => (cp, r)) else []

/-- the (end position, rule) pairs still to be offered: from `yy_acclist[lp]` to the end of the slice of the state on top,
    then the whole slices of the states below, each one position earlier -/
def remaining (acc acl : Array Int) (stk : List Int) : Nat → Int → Int → List (Int × Int)
  | 0, lp, cp => here acl (hiOf acc stk 0) lp cp
  | sp + 1, lp, cp => here acl (hiOf acc stk (sp + 1)) lp cp ++ remaining acc acl stk sp (loOf acc stk sp) (cp - 1)

/-- what the loop reads for the states `stk[0 … sp]` is in range: `yy_accept` has both entries, and the slice of a state that has
    one (`lo ≠ 0`) ends inside `yy_acclist`.  Validated tables have this (`wf_of_accept`) -/
def WF (acc acl : Array Int) (stk : List Int) (sp : Nat) : Prop :=
  ∀ i, i ≤ sp → ∃ lo hi, rd acc (stk.getD i 0) = some lo ∧ rd acc (stk.getD i 0 + 1) = some hi ∧ 0 ≤ lo ∧
    (lo ≠ 0 → hi ≤ acl.size)

def loopCond : Ex := .lit 1
def brk : St := .seq (.assign 4 (.tab 7 (.var 2))) (.seq (.assign 5 (.var 3)) (.ret (.lit 0)))
def test : Ex := .and (.var 2) (.lt (.var 2) (.tab 1 (.add (.var 1) (.lit 1))))
def down : St := .seq (.assign 3 (.add (.var 3) (.lit (-1))))
  (.seq (.seq (.assign 0 (.add (.var 0) (.lit (-1)))) (.assign 1 (.idx (.var 0)))) (.assign 2 (.tab 1 (.var 1))))
def loopBody : St := .seq (.ite test brk .skip) down
def findRule : St := .scope (.while_ loopCond loopBody)

theorem findAction_shape : findAction =
    .seq (.seq (.assign 0 (.add (.var 0) (.lit (-1)))) (.assign 1 (.idx (.var 0)))) (.seq (.assign 2 (.tab 1 (.var 1))) findRule) := rfl
theorem reject_shape : reject = .seq (.assign 3 (.var 5)) (.seq (.assign 2 (.add (.var 2) (.lit 1))) findRule) := rfl

/-- the machinery's state between two offers -/
structure At (acc acl : Array Int) (s : State) (sp : Nat) : Prop where
  t1 : Holds s 1 acc
  t7 : Holds s 7 acl
  sp_eq : s.vars 0 = sp
  inb : sp < s.arr.length
  cur : s.vars 1 = s.arr.getD sp 0
  wf : WF acc acl s.arr sp

section
variable {acc acl : Array Int} {stk : List Int} {s : State} {sp k : Nat}

theorem WF.get (h : WF acc acl stk sp) {i : Nat} (hi : i ≤ sp) :
    rd acc (stk.getD i 0) = some (loOf acc stk i) ∧ rd acc (stk.getD i 0 + 1) = some (hiOf acc stk i) ∧
      (loOf acc stk i ≠ 0 → 0 < loOf acc stk i ∧ hiOf acc stk i ≤ acl.size) := by
  obtain ⟨lo, hi', hlo, hhi, h0, hsz⟩ := h i hi
  simp only [loOf, hiOf, hlo, hhi, Option.getD_some]
  exact ⟨trivial, trivial, fun hne => ⟨by omega, hsz hne⟩⟩

theorem At.set (hA : At acc acl s sp) (x : Nat) (v : Int) (h2 : 2 ≤ x) (hx : x < 5000) : At acc acl (setVar s x v) sp :=
  ⟨holds_setVar hA.t1 x v hx, holds_setVar hA.t7 x v hx, (setVar_ne s v (by omega)).trans hA.sp_eq, hA.inb,
    (setVar_ne s v (by omega)).trans hA.cur, hA.wf⟩

theorem at_pop (h1 : Holds s 1 acc) (h7 : Holds s 7 acl) (hk : k < s.arr.length) (hwf : WF acc acl s.arr k) (v : Int) :
    At acc acl (setVar (setVar (setVar s 0 k) 1 (s.arr.getD k 0)) 2 v) k :=
  ⟨holds_setVar (holds_setVar (holds_setVar h1 0 _ (by omega)) 1 _ (by omega)) 2 _ (by omega),
    holds_setVar (holds_setVar (holds_setVar h7 0 _ (by omega)) 1 _ (by omega)) 2 _ (by omega), rfl, hk, rfl, hwf⟩

theorem here_cons {acl : Array Int} {hi lp : Int} (cp : Int) (hp : 0 < lp) (hlt : lp < hi) (hsz : hi ≤ acl.size) :
    ∃ r, rd acl lp = some r ∧ here acl hi lp cp = (cp, r) :: here acl hi (lp + 1) cp := by
  obtain ⟨n, rfl⟩ := Int.eq_ofNat_of_zero_le (Int.le_of_lt hp)
  obtain ⟨m, rfl⟩ := Int.eq_ofNat_of_zero_le (Int.le_of_lt (Int.lt_trans hp hlt))
  have hnm : n < m := Int.ofNat_lt.mp hlt
  have hn : n < acl.toList.length := Nat.lt_of_lt_of_le hnm (Int.ofNat_le.mp hsz)
  refine ⟨acl[n], ?_, ?_⟩
  · rw [rd, if_neg (by omega), Int.toNat_natCast, Array.getElem?_eq_getElem]
  · rw [here, here, if_pos (by omega), if_pos (by omega), Int.toNat_natCast, Int.toNat_natCast, Int.toNat_natCast_add_one,
      List.drop_eq_getElem_cons hn, List.take_cons (Nat.sub_pos_of_lt hnm), List.map_cons, Array.getElem_toList]
    rfl  -- `m - n - 1` is `m - (n + 1)`

theorem here_nil {acl : Array Int} {hi lp : Int} (cp : Int) (h : ¬ (lp ≠ 0 ∧ lp < hi)) : here acl hi lp cp = [] := by
  unfold here
  split
  · next hz => rw [Nat.sub_eq_zero_of_le (Int.toNat_le_toNat (Int.not_lt.mp fun hlt => h ⟨hz, hlt⟩))]; rfl
  · rfl

theorem remaining_head {lp cp c r : Int} {rest : List (Int × Int)} (hp : 0 < lp) (hlt : lp < hiOf acc stk sp)
    (hsz : hiOf acc stk sp ≤ acl.size) (hrem : remaining acc acl stk sp lp cp = (c, r) :: rest) :
    rd acl lp = some r ∧ cp = c ∧ remaining acc acl stk sp (lp + 1) cp = rest := by
  obtain ⟨r', hr', hh⟩ := here_cons cp hp hlt hsz
  have : remaining acc acl stk sp lp cp = (cp, r') :: remaining acc acl stk sp (lp + 1) cp := by
    cases sp with
    | zero => exact hh
    | succ sp => exact congrArg (· ++ _) hh
  cases this.symm.trans hrem
  exact ⟨hr', rfl, rfl⟩

theorem test_eval (hA : At acc acl s sp) :
    test.eval s = some (b2i (s.vars 2 != 0 && b2i (s.vars 2 < hiOf acc s.arr sp) != 0)) := by
  refine eval_and_some rfl (eval_lt_some rfl ?_)
  rw [tab_eval hA.t1 _ (s.vars 1 + 1) rfl, hA.cur]
  exact (hA.wf.get (Nat.le_refl _)).2.1

theorem loopBody_break (hA : At acc acl s sp) (hT : s.vars 2 ≠ 0 ∧ s.vars 2 < hiOf acc s.arr sp) {r : Int}
    (hr : rd acl (s.vars 2) = some r) : loopBody.run s = (setVar (setVar s 4 r) 5 (s.vars 3), .returned 0) := by
  refine run_seq_stop ?_ nofun
  rw [run_ite_some (test_eval hA), if_pos (by simp [hT]), brk,
    run_seq_normal (run_assign_some ((tab_eval hA.t7 _ (s.vars 2) rfl).trans hr))]
  rfl

/-- `yy_current_state = *--yy_state_ptr; yy_lp = yy_accept[yy_current_state];` -/
theorem pop_run (h1 : Holds s 1 acc) (h0 : s.vars 0 = ((k + 1 : Nat) : Int)) (hk : k < s.arr.length) {lo : Int}
    (hlo : rd acc (s.arr.getD k 0) = some lo) :
    (St.seq (.seq (.assign 0 (.add (.var 0) (.lit (-1)))) (.assign 1 (.idx (.var 0)))) (.assign 2 (.tab 1 (.var 1)))).run s =
      (setVar (setVar (setVar s 0 k) 1 (s.arr.getD k 0)) 2 lo, .normal) := by
  refine Runs.run_eq (.seq (.seq (.assign (congrArg some (by omega)) (.assign ?_ (.assign ?_ rfl)))))
  · rw [eval_idx_at (s := setVar s 0 k) (n := k) rfl (setVar_same ..) hk, List.getD_eq_getElem?_getD, List.getElem?_eq_getElem hk]; rfl
  · exact (tab_eval (holds_setVar (holds_setVar h1 0 _ (by omega)) 1 _ (by omega)) _ _ rfl).trans hlo

theorem loopBody_down (hA : At acc acl s (sp + 1)) (hT : ¬ (s.vars 2 ≠ 0 ∧ s.vars 2 < hiOf acc s.arr (sp + 1))) :
    loopBody.run s =
      (setVar (setVar (setVar (setVar s 3 (s.vars 3 - 1)) 0 sp) 1 (s.arr.getD sp 0)) 2 (loOf acc s.arr sp), .normal) := by
  have hc : test.eval s = some 0 := (test_eval hA).trans (congrArg some (by simpa [b2i] using hT))
  exact Runs.run_eq (.seq (.ite_false hc (.skip (.seq (.assign rfl (.of_eq
    (pop_run (holds_setVar hA.t1 3 _ (by omega)) hA.sp_eq (Nat.lt_of_succ_lt hA.inb) (hA.wf.get (Nat.le_succ sp)).1) rfl))))))

end

/-- **the `find_rule` loop**: from a state of the machinery whose list of remaining alternatives starts with `(c, r)`,
    the loop leaves through its `break` with `yy_act = r`, `yy_full_match = yy_cp = c`, at a position whose remaining
    alternatives (after `++yy_lp`) are the rest; nothing is read outside the tables or the state buffer -/
theorem find_loop (acc acl : Array Int) : ∀ (sp : Nat) (s : State) (fuel : Nat) (c r : Int) (rest : List (Int × Int)),
    Holds s 1 acc → Holds s 7 acl → s.vars 0 = sp → sp < s.arr.length → s.vars 1 = s.arr.getD sp 0 → WF acc acl s.arr sp →
    (s.vars 2 ≠ 0 → 0 < s.vars 2 ∧ hiOf acc s.arr sp ≤ acl.size) →
    remaining acc acl s.arr sp (s.vars 2) (s.vars 3) = (c, r) :: rest → sp + 2 ≤ fuel →
    ∃ (s' : State) (sp' : Nat), loop (fun x => loopCond.eval x) (fun x => loopBody.run x) fuel s = (s', .returned 0) ∧
      s'.vars 4 = r ∧ s'.vars 5 = c ∧ s'.vars 3 = c ∧ sp' ≤ sp ∧ s'.vars 0 = sp' ∧ s'.vars 1 = s.arr.getD sp' 0 ∧
      s'.arr = s.arr ∧ s'.log = s.log ∧ Holds s' 1 acc ∧ Holds s' 7 acl ∧ 0 < s'.vars 2 ∧
      hiOf acc s.arr sp' ≤ acl.size ∧ remaining acc acl s.arr sp' (s'.vars 2 + 1) c = rest := by
  intro sp
  induction sp using Nat.strongRecOn with
  | ind sp ih =>
    intro s fuel c r rest h1 h7 h0 hlen hcur hwf hlp hrem hf
    have hA : At acc acl s sp := ⟨h1, h7, h0, hlen, hcur, hwf⟩
    have hc : loopCond.eval s = some 1 := rfl
    by_cases hT : s.vars 2 ≠ 0 ∧ s.vars 2 < hiOf acc s.arr sp
    · obtain ⟨hp, hsz⟩ := hlp hT.1
      obtain ⟨hr, rfl, rfl⟩ := remaining_head hp hT.2 hsz hrem
      have hA' := (hA.set 4 r (by omega) (by omega)).set 5 (s.vars 3) (by omega) (by omega)
      exact ⟨_, sp, loop_stop (by omega) hc (by decide) (loopBody_break hA hT hr) nofun,
        rfl, rfl, rfl, Nat.le_refl _, hA'.sp_eq, hA'.cur,
        rfl, rfl, hA'.t1, hA'.t7, hp,
        hsz, rfl⟩
    · -- nothing (left) for this prefix: there is a shorter one, or `remaining` would be empty
      have hnil := here_nil (acl := acl) (s.vars 3) hT
      cases sp with
      | zero => rw [remaining, hnil] at hrem; cases hrem
      | succ sp =>
        rw [remaining, hnil, List.nil_append] at hrem
        have hA1 := at_pop (holds_setVar h1 3 (s.vars 3 - 1) (by omega)) (holds_setVar h7 3 (s.vars 3 - 1) (by omega))
          (Nat.lt_of_succ_lt hlen) (fun i hi => hwf i (Nat.le_succ_of_le hi)) (loOf acc s.arr sp)
        rw [loop_step (by omega) hc (by decide) (loopBody_down hA hT)]
        obtain ⟨s', sp', hl, e4, e5, e3, hle, h⟩ := ih sp (Nat.lt_succ_self _) _ (fuel - 1) c r rest hA1.t1 hA1.t7 hA1.sp_eq hA1.inb
          hA1.cur hA1.wf (hwf.get (Nat.le_succ sp)).2.2 hrem (Nat.le_sub_one_of_lt hf)
        exact ⟨s', sp', hl, e4, e5, e3, Nat.le_succ_of_le hle, h⟩

theorem findRule_run {acc acl : Array Int} {s : State} {sp : Nat} {c r : Int} {rest : List (Int × Int)} (hA : At acc acl s sp)
    (hlp : s.vars 2 ≠ 0 → 0 < s.vars 2 ∧ hiOf acc s.arr sp ≤ acl.size)
    (hrem : remaining acc acl s.arr sp (s.vars 2) (s.vars 3) = (c, r) :: rest) :
    ∃ (s' : State) (sp' : Nat), findRule.run s = (s', .normal) ∧ s'.vars 4 = r ∧ s'.vars 5 = c ∧ s'.vars 3 = c ∧ sp' ≤ sp ∧
      At acc acl s' sp' ∧ s'.arr = s.arr ∧ s'.log = s.log ∧ 0 < s'.vars 2 ∧ hiOf acc s.arr sp' ≤ acl.size ∧
      remaining acc acl s.arr sp' (s'.vars 2 + 1) c = rest := by
  obtain ⟨s', sp', hl, e4, e5, e3, hle, e0, e1, ea, el, h1, h7, hrest⟩ :=
    find_loop acc acl sp s (s.arr.length + 3) c r rest hA.t1 hA.t7 hA.sp_eq hA.inb hA.cur hA.wf hlp hrem (by have := hA.inb; omega)
  exact ⟨s', sp', by simp only [findRule, St.run, hl], e4, e5, e3, hle,
    ⟨h1, h7, e0, ea ▸ Nat.lt_of_le_of_lt hle hA.inb, ea ▸ e1, ea ▸ fun i hi => hA.wf i (Nat.le_trans hi hle)⟩, ea, el, hrest⟩

/-- **entering at `yy_find_action`** with `k + 1` states on the stack (`yy_state_ptr` one past the last): the first action
    offered is the head of the list of all alternatives -/
theorem findAction_spec (acc acl : Array Int) (s : State) (k : Nat) (c r : Int) (rest : List (Int × Int))
    (h1 : Holds s 1 acc) (h7 : Holds s 7 acl) (hsp : s.vars 0 = ((k + 1 : Nat) : Int)) (hin : k < s.arr.length)
    (hwf : WF acc acl s.arr k) (hrem : remaining acc acl s.arr k (loOf acc s.arr k) (s.vars 3) = (c, r) :: rest) :
    ∃ (s' : State) (sp' : Nat), findAction.run s = (s', .normal) ∧ s'.vars 4 = r ∧ s'.vars 5 = c ∧ s'.vars 3 = c ∧ sp' ≤ k ∧
      At acc acl s' sp' ∧ s'.arr = s.arr ∧ s'.log = s.log ∧ 0 < s'.vars 2 ∧ hiOf acc s.arr sp' ≤ acl.size ∧
      remaining acc acl s.arr sp' (s'.vars 2 + 1) c = rest := by
  obtain ⟨hlo, -, hlp⟩ := hwf.get (Nat.le_refl k)
  rw [findAction_shape, run_seq_assoc, run_seq_normal (pop_run h1 hsp hin hlo)]
  exact findRule_run (at_pop h1 h7 hin hwf _) hlp hrem

/-- **yyreject()** after an offer: the next action offered is the head of what remained -/
theorem reject_spec (acc acl : Array Int) (s : State) (sp : Nat) (c r : Int) (rest : List (Int × Int)) (hA : At acc acl s sp)
    (hpos : 0 < s.vars 2) (hsz : hiOf acc s.arr sp ≤ acl.size)
    (hrem : remaining acc acl s.arr sp (s.vars 2 + 1) (s.vars 5) = (c, r) :: rest) :
    ∃ (s' : State) (sp' : Nat), reject.run s = (s', .normal) ∧ s'.vars 4 = r ∧ s'.vars 5 = c ∧ s'.vars 3 = c ∧ sp' ≤ sp ∧
      At acc acl s' sp' ∧ s'.arr = s.arr ∧ s'.log = s.log ∧ 0 < s'.vars 2 ∧ hiOf acc s.arr sp' ≤ acl.size ∧
      remaining acc acl s.arr sp' (s'.vars 2 + 1) c = rest := by
  rw [reject_shape, run_seq_normal (run_assign_some rfl), run_seq_normal (run_assign_some rfl)]
  exact findRule_run ((hA.set 3 (s.vars 5) (by omega) (by omega)).set 2 (s.vars 2 + 1) (by omega) (by omega))
    (fun _ => ⟨Int.add_pos hpos Int.one_pos, hsz⟩) hrem

def offers (T : Tables) (st cp : Int) : List (Int × Int) := ((T.acceptOf st).getD []).map (fun r => (cp, r))

theorem accept_cases (T : Tables) (hrej : T.reject = true) (st : Int) (h : T.acceptOf st ≠ none) :
    ∃ lo hi, rd T.accept st = some lo ∧ rd T.accept (st + 1) = some hi ∧ 0 ≤ lo ∧ (lo ≠ 0 → hi ≤ T.acclist.size) ∧
      T.acceptOf st = some (if lo = 0 then [] else (T.acclist.extract lo.toNat hi.toNat).toList) := by
  unfold Tables.acceptOf at h ⊢
  rw [if_pos hrej] at h ⊢
  split at h
  · next lo hi hlo hhi =>
    refine ⟨lo, hi, hlo, hhi, ?_⟩
    by_cases hz : lo = 0
    · simp [hz]
    · by_cases hbad : lo < 0 ∨ hi < lo ∨ hi.toNat > T.acclist.size
      · rw [if_neg hz, if_pos hbad] at h
        exact absurd rfl h
      · rw [if_neg hz, if_neg hz, if_neg hbad]
        exact ⟨by omega, fun _ => by omega, rfl⟩
  · exact absurd rfl h

theorem here_eq_offers (T : Tables) (hrej : T.reject = true) (st cp : Int) (h : T.acceptOf st ≠ none) :
    here T.acclist ((rd T.accept (st + 1)).getD 0) ((rd T.accept st).getD 0) cp = offers T st cp := by
  obtain ⟨lo, hi, hlo, hhi, _, _, hacc⟩ := accept_cases T hrej st h
  rw [offers, hacc, hlo, hhi, here]
  by_cases hz : lo = 0
  · simp [hz]
  · simp [hz, List.extract_eq_take_drop]

/-- `remaining_all` for the states `stk[0 … k]` below a stack `stk[0 … m]`: with the end positions counted from the top `m`
    the induction on `k` keeps the same function of `i` -/
theorem remaining_below (T : Tables) (hrej : T.reject = true) (stk : List Int) (m : Nat) (cp : Int) : ∀ k d : Nat, k + d = m →
    (∀ i, i ≤ k → T.acceptOf (stk.getD i 0) ≠ none) →
    remaining T.accept T.acclist stk k (loOf T.accept stk k) (cp - d) =
      ((List.range (k + 1)).reverse).flatMap (fun i => offers T (stk.getD i 0) (cp - ((m - i : Nat) : Int))) := by
  intro k
  induction k with
  | zero =>
    intro d hd h
    rw [List.range_one, List.reverse_singleton, List.flatMap_singleton, Nat.sub_zero, ← hd, Nat.zero_add]
    exact here_eq_offers T hrej _ _ (h 0 (Nat.le_refl _))
  | succ k ih =>
    intro d hd h
    rw [List.range_succ, List.reverse_append, List.reverse_singleton, List.singleton_append, List.flatMap_cons,
      ← ih (d + 1) (by omega) fun i hi => h i (Nat.le_succ_of_le hi), Nat.sub_eq_of_eq_add' hd.symm, Int.natCast_add_one,
      ← Int.sub_sub]
    exact congrArg (· ++ _) (here_eq_offers T hrej _ _ (h (k + 1) (Nat.le_refl _)))

/-- **the whole list of alternatives** of a token whose prefixes of length 0 … k lead to the states `stk[0 … k]`: for the
    longest prefix the decoder's rule list of its state, then that of the prefix one shorter, and so on -/
theorem remaining_all (T : Tables) (hrej : T.reject = true) (stk : List Int) : ∀ (k : Nat) (cp : Int),
    (∀ i, i ≤ k → T.acceptOf (stk.getD i 0) ≠ none) →
    remaining T.accept T.acclist stk k (loOf T.accept stk k) cp =
      ((List.range (k + 1)).reverse).flatMap (fun i => offers T (stk.getD i 0) (cp - ((k - i : Nat) : Int))) := by
  intro k cp h
  simpa using remaining_below T hrej stk k cp k 0 rfl h

theorem wf_of_accept (T : Tables) (hrej : T.reject = true) (stk : List Int) (k : Nat)
    (h : ∀ i, i ≤ k → T.acceptOf (stk.getD i 0) ≠ none) : WF T.accept T.acclist stk k := by
  intro i hi
  obtain ⟨lo, hi', hlo, hhi, h0, hsz, _⟩ := accept_cases T hrej _ (h i hi)
  exact ⟨lo, hi', hlo, hhi, h0, hsz⟩

/-- **C07, the first action**: for validated tables (every state on the stack has its rule list), entering at
    `yy_find_action` offers the first of all alternatives — longest prefix, first rule of its list -/
theorem first_offer (T : Tables) (hrej : T.reject = true) (s : State) (k : Nat) (c r : Int) (rest : List (Int × Int))
    (h1 : Holds s 1 T.accept) (h7 : Holds s 7 T.acclist) (hsp : s.vars 0 = ((k + 1 : Nat) : Int)) (hin : k < s.arr.length)
    (hacc : ∀ i, i ≤ k → T.acceptOf (s.arr.getD i 0) ≠ none)
    (halts : ((List.range (k + 1)).reverse).flatMap (fun i => offers T (s.arr.getD i 0) (s.vars 3 - ((k - i : Nat) : Int))) = (c, r) :: rest) :
    ∃ (s' : State) (sp' : Nat), findAction.run s = (s', .normal) ∧ s'.vars 4 = r ∧ s'.vars 5 = c ∧ s'.vars 3 = c ∧
      At T.accept T.acclist s' sp' ∧ s'.arr = s.arr ∧ 0 < s'.vars 2 ∧ hiOf T.accept s.arr sp' ≤ T.acclist.size ∧
      remaining T.accept T.acclist s.arr sp' (s'.vars 2 + 1) c = rest := by
  obtain ⟨s', sp', hr, e4, e5, e3, _, hA, ea, _, hpos, hsz, hrm⟩ :=
    findAction_spec T.accept T.acclist s k c r rest h1 h7 hsp hin (wf_of_accept T hrej s.arr k hacc)
      ((remaining_all T hrej s.arr k (s.vars 3) hacc).trans halts)
  exact ⟨s', sp', hr, e4, e5, e3, hA, ea, hpos, hsz, hrm⟩

/-- `yy_state_ptr = 3`, `yy_cp = 2`; `yy_accept = [0, 1, 3, 4]` as table 1 (its length at `tabLen 1 = 5001`, cell `i` at
    `tabCell 1 i = 10001 + 16 i`), `yy_acclist = [0, 1, 2, 2]` as table 7 (`5007`, `10007 + 16 i`) -/
def sEx : State :=
  { vars := fun y => if y = 0 then 3 else if y = 3 then 2
      else if y = 5001 then 4 else if y = 10001 then 0 else if y = 10017 then 1 else if y = 10033 then 3 else if y = 10049 then 4
      else if y = 5007 then 4 else if y = 10007 then 0 else if y = 10023 then 1 else if y = 10039 then 2 else if y = 10055 then 2
      else 0,
    arr := [1, 1, 2] }

/-- three states on the stack (after "", "a", "ab"); state 1 accepts rules 1 and 2, state 2 rule 2: "ab" as rule 2; rejected: "a"
    as rule 1; rejected: "a" as rule 2; rejected: "" as rule 1 (the state after no character is state 1 in this made-up table) -/
example : let s1 := (findAction.run sEx).1
    let s2 := (reject.run s1).1
    let s3 := (reject.run s2).1
    let s4 := (reject.run s3).1
    (s1.vars 4, s1.vars 3) = (2, 2) ∧ (s2.vars 4, s2.vars 3) = (1, 1) ∧ (s3.vars 4, s3.vars 3) = (2, 1) ∧
      (s4.vars 4, s4.vars 3) = (1, 0) ∧ (reject.run s3).2 = .normal := by
  decide

end FlexVerif.C07Reject
