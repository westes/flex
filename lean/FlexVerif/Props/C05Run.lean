/-
  Props/C05Run.lean — the start-condition frame lifted from one action to whole `yylex` calls
  and whole runs: if no script of the run calls yybegin / yy_push_state / yy_pop_state (and the
  top-level code does not either), the start condition never changes — through any number of
  tokens, REJECTs, end-of-file actions, yywrap switches and buffer operations.
-/
import FlexVerif.Props.C05
namespace FlexVerif
open AState

theorem scr_inputOp (cfg : Cfg) (s : AState) (fuel : Nat) : scr (inputOp cfg s fuel) = scr s :=
  (inputOp_frame (k := True)).1

theorem scr_nextScript (s : AState) : scr s.nextScript.1 = scr s := rfl

/-- none of the scripts calls yybegin / yy_push_state / yy_pop_state -/
def SafeScr (t : Array (List Op) × Array (List Op) × List Op) : Prop :=
  (∀ i, ∀ op ∈ t.1.getD i [], op.setsStart = false) ∧
  (∀ i, ∀ op ∈ t.2.1.getD i [], op.setsStart = false) ∧
  (∀ op ∈ t.2.2, op.setsStart = false)

theorem SafeScr.frame {k : Prop} {s t : AState} (hs : SafeScr (scr s)) (h : Frame k s t) : SafeScr (scr t) :=
  h.1 ▸ hs

theorem runAlternatives_frame {M : Matcher} {cfg : Cfg} {inp prefix_ : List UInt8} {bb : ABuf} {ln : Int} :
    ∀ (cands : List (Nat × Nat)) (s : AState), SafeScr (scr s) →
      Frame True s (runAlternatives M cfg s inp prefix_ bb ln cands).1
  | [], s, _ => .of_eq rfl
  | (len, rule) :: rest, s, hs => by
    unfold runAlternatives
    dsimp only
    generalize hb : beginMatch M cfg _ inp len rule prefix_ = s1
    -- the state every alternative starts from, then the match announced
    have h0 : Frame True s
        (if cfg.reentrant = true then s.setCurBuf bb else { s.setCurBuf bb with lineno := ln }) := by
      rw [setCurBuf_eq]; exact .ite (.of_eq rfl) (.of_eq rfl)
    have h1 : Frame True s s1 := hb ▸ .trans (.ite (h0.emit _) h0) beginMatch_frame
    refine h1.haltOr ?_
    -- the script of this action execution
    generalize hsel : (if cfg.actionOf.getD (rule - 1) rule == cfg.numRules then (s1, []) else s1.nextScript) = sel
    have h2 : Frame True s1 sel.1 ∧ ∀ op ∈ sel.2, op.setsStart = false := by
      rw [← hsel]
      split
      · exact ⟨.of_eq rfl, fun _ h => nomatch h⟩
      · exact ⟨.of_eq rfl, (hs.frame h1).1 _⟩
    have h3 : Frame True s1 (runAction M cfg { sel.1 with moreFlag := false } sel.2).1 :=
      h2.1.trans ((runAction_frame ..).imp fun _ => h2.2)
    split
    · exact h3.trans (runAlternatives_frame rest _ (hs.frame (h1.trans h3)))
    · exact h3

theorem runAlternatives_start (M : Matcher) (cfg : Cfg) (inp prefix_ : List UInt8) (bb : ABuf) (ln : Int) :
    ∀ (cands : List (Nat × Nat)) (s : AState), SafeScr (scr s) →
      (runAlternatives M cfg s inp prefix_ bb ln cands).1.start = s.start ∧
      scr (runAlternatives M cfg s inp prefix_ bb ln cands).1 = scr s :=
  fun cands s hs => (runAlternatives_frame cands s hs).conj

theorem markMayFatal_frame {k : Prop} {cfg : Cfg} {s : AState} {n : Nat} : Frame k s (markMayFatal cfg s n) := by
  unfold markMayFatal; split <;> exact .of_eq rfl

theorem noteReads_frame {k : Prop} {cfg : Cfg} {s : AState} {a b : Nat} : Frame k s (noteReads cfg s a b) := by
  unfold noteReads; split <;> exact .of_eq rfl

theorem eofAction_frame (M : Matcher) (cfg : Cfg) {s : AState} (hs : SafeScr (scr s)) :
    Frame True s (runAction M cfg (eofScript s).1 (eofScript s).2).1 := by
  refine .trans (.of_eq rfl) ((runAction_frame ..).imp fun _ => ?_)
  unfold eofScript
  dsimp only
  split
  · exact hs.2.2
  · exact hs.2.1 _

theorem lexCall_frame (M : Matcher) (cfg : Cfg) :
    ∀ (fuel : Nat) (s : AState), SafeScr (scr s) → Frame True s (lexCall M cfg fuel s)
  | 0, s, _ => .of_eq rfl
  | fuel + 1, s, hs => by
    have again : ∀ {t}, Frame True s t → Frame True s (lexCall M cfg fuel t) :=
      fun h => h.trans (lexCall_frame M cfg fuel _ (hs.frame h))
    unfold lexCall
    dsimp only
    refine .ite (.of_eq rfl) ?_
    split
    · -- end of input
      generalize hw : doWrap _ = w
      have h2 : Frame True s w.1 :=
        hw ▸ (ensureBuf_frame s).trans ((eofRestart_frame _).trans (markMayFatal_frame.trans (doWrap_frame _)))
      refine .ite (again h2) (.ite ?_ (h2.emit _))
      -- the <<EOF>> action of this start condition
      generalize hr : runAction M cfg _ _ = r
      have h3 : Frame True s r.1 := hr ▸ h2.trans (eofAction_frame M cfg (hs.frame h2))
      split
      · exact h3.emit _
      · exact h3
      · exact again h3
      · exact h3.emit _
    · -- a token
      generalize hs1 : noteReads cfg _ _ _ = s1
      have h1 : Frame True s s1 := hs1 ▸ (ensureBuf_frame s).trans (markMayFatal_frame.trans noteReads_frame)
      generalize hr : runAlternatives M cfg s1 _ _ _ _ _ = r
      have h3 : Frame True s r.1 :=
        hr ▸ h1.trans (runAlternatives_frame _ s1 (hs.frame h1))
      split
      · exact h3.emit _
      · exact h3
      · exact again h3

/-- **A whole `yylex` call** — any number of tokens, REJECTs, yywrap switches, `<<EOF>>` actions —
    leaves the start condition where it was when no script calls yybegin / yy_push_state /
    yy_pop_state. -/
theorem lexCall_start (M : Matcher) (cfg : Cfg) :
    ∀ (fuel : Nat) (s : AState), SafeScr (scr s) →
      (lexCall M cfg fuel s).start = s.start ∧ scr (lexCall M cfg fuel s) = scr s :=
  fun fuel s hs => (lexCall_frame M cfg fuel s hs).conj

/-- **A whole run**: the top-level script calls `yylex` any number of times, does buffer
    operations, yyinput/yyunput — and, as long as neither it nor any action script calls yybegin /
    yy_push_state / yy_pop_state (or destroys the scanner), the start condition stays put. -/
theorem runMain_start (M : Matcher) (cfg : Cfg) (fuel : Nat) :
    ∀ (ops : List Op) (s : AState), SafeScr (scr s) → (∀ op ∈ ops, op.setsStart = false) →
      (runMain M cfg fuel s ops).start = s.start
  | [], s, _, _ => rfl
  | op :: ops, s, hs, hops => by
    have next : ∀ {t}, Frame True s t → (runMain M cfg fuel t ops).start = s.start := fun h =>
      (runMain_start M cfg fuel ops _ (hs.frame h) fun o ho => hops o (List.mem_cons_of_mem _ ho)).trans h.start
    have hop := hops op List.mem_cons_self
    unfold runMain
    split
    · rfl
    · split
      · -- yylex
        split
        · exact next (.of_eq rfl)
        · have h := lexCall_frame M cfg fuel s hs
          generalize lexCall M cfg fuel s = s' at h ⊢
          exact next (h.trans (.of_eq rfl))
      · exact next inputOp_frame
      · -- yyunput
        dsimp only
        refine next (.ite ?_ ?_)
        · rw [addLineno_eq, setCurBuf_eq, ensureBuf_eq]; exact .of_eq rfl
        · rw [setCurBuf_eq, ensureBuf_eq]; exact .of_eq rfl
      · cases hop  -- destroy
      · -- what is left is a `commonOp` or a `bufferOp`
        split
        · rename_i heq
          exact next ((commonOp_frame heq).imp fun _ => hop)
        · exact next (bufferOp_frame.trans (.of_eq rfl))

/-- the hypothesis is decidable: check every stored script -/
def safeScrB (t : Array (List Op) × Array (List Op) × List Op) : Bool :=
  (t.1.toList.all fun ops => ops.all fun op => !op.setsStart) &&
  (t.2.1.toList.all fun ops => ops.all fun op => !op.setsStart) &&
  (t.2.2.all fun op => !op.setsStart)

theorem SafeScr_of_safeScrB (t : Array (List Op) × Array (List Op) × List Op) (h : safeScrB t = true) :
    SafeScr t := by
  simp only [safeScrB, Bool.and_eq_true, List.all_eq_true, Bool.not_eq_true'] at h
  -- a script looked up by `getD` is one of the stored scripts, or empty
  have get : ∀ a : Array (List Op), (∀ ops ∈ a.toList, ∀ op ∈ ops, op.setsStart = false) →
      ∀ i, ∀ op ∈ a.getD i [], op.setsStart = false := by
    intro a ha i op hop
    rw [Array.getD_eq_getD_getElem?] at hop
    cases hi : a[i]? with
    | none => rw [hi] at hop; cases hop
    | some x => rw [hi] at hop; exact ha x (Array.mem_toList_iff.mpr (Array.mem_of_getElem? hi)) op hop
  exact ⟨get _ h.1.1, get _ h.1.2, h.2⟩

/-- non-vacuity: scripts that use yymore/yyless/REJECT/yyinput and never touch the start condition -/
example : SafeScr (scr ({ acts := #[[.more, .less 1], [.reject], [.input, .ret 3]], eofDefault := [.cont] } : AState)) :=
  SafeScr_of_safeScrB _ (by decide)

end FlexVerif
