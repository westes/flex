/-
  Props/C05.lean — start conditions: the current start condition changes only through
  yybegin / yy_push_state / yy_pop_state; push/pop/top are an unbounded LIFO stack whose
  underflow is a reported fatal error.   (Activation of rules by start condition is the
  definition `RuleSet.activeIn`, checked against flex per program by the validator.)
-/
import FlexVerif.Runtime.AbsProofs
namespace FlexVerif
open AState

@[simp] theorem AState.emit_start (s : AState) (l : String) : (s.emit l).start = s.start := rfl
@[simp] theorem AState.emit_sstack (s : AState) (l : String) : (s.emit l).sstack = s.sstack := rfl
-- `unfold` first: a bare `rfl` compares `s` with the updated record field by field before it projects
@[simp] theorem AState.fatal_start (s : AState) (c : String) : (s.fatal c).start = s.start := by unfold fatal; rfl
@[simp] theorem AState.fatal_sstack (s : AState) (c : String) : (s.fatal c).sstack = s.sstack := by unfold fatal; rfl
@[simp] theorem AState.emit_acts (s : AState) (l : String) : (s.emit l).acts = s.acts := rfl
@[simp] theorem AState.fatal_acts (s : AState) (c : String) : (s.fatal c).acts = s.acts := by unfold fatal; rfl
@[simp] theorem AState.noteNeed_acts (s : AState) (d p : Nat) : (s.noteNeed d p).acts = s.acts := rfl
@[simp] theorem AState.emit_eacts (s : AState) (l : String) : (s.emit l).eacts = s.eacts := rfl
@[simp] theorem AState.fatal_eacts (s : AState) (c : String) : (s.fatal c).eacts = s.eacts := by unfold fatal; rfl
@[simp] theorem AState.noteNeed_eacts (s : AState) (d p : Nat) : (s.noteNeed d p).eacts = s.eacts := rfl
@[simp] theorem AState.emit_eofDefault (s : AState) (l : String) : (s.emit l).eofDefault = s.eofDefault := rfl
@[simp] theorem AState.fatal_eofDefault (s : AState) (c : String) : (s.fatal c).eofDefault = s.eofDefault := by
  unfold fatal; rfl
@[simp] theorem AState.noteNeed_eofDefault (s : AState) (d p : Nat) : (s.noteNeed d p).eofDefault = s.eofDefault := rfl

/-- an operation that is allowed to change the start condition -/
def Op.setsStart : Op → Bool
  | .begin_ _ | .push _ | .pop | .destroy => true
  | _ => false

/-- the scripts a state carries (they drive the actions; nothing may rewrite them) -/
def scr (s : AState) : Array (List Op) × Array (List Op) × List Op := (s.acts, s.eacts, s.eofDefault)

/-- `t` still carries the scripts of `s` and, if `k`, its start condition.  Every operation relates the state
    it starts from to the state it leaves in this way (`*_frame`), with `k` true for all but yybegin /
    yy_push_state / yy_pop_state; being transitive, the relation passes on to actions and to whole runs
    (`Props/C05Run.lean`). -/
def Frame (k : Prop) (s t : AState) : Prop := scr t = scr s ∧ (k → t.start = s.start)

namespace Frame
variable {k : Prop} {s t u : AState}

/-- both components compute (`rfl`) when `t` is `s` under record updates of other fields.
    Not for a `t` built around a recursive function of the model: checking `rfl` would unfold it. -/
theorem of_eq (h : (t.start, scr t) = (s.start, scr s)) : Frame k s t :=
  ⟨congrArg Prod.snd h, fun _ => congrArg Prod.fst h⟩

theorem trans (h1 : Frame k s t) (h2 : Frame k t u) : Frame k s u :=
  ⟨h2.1.trans h1.1, fun hk => (h2.2 hk).trans (h1.2 hk)⟩

theorem imp {k' : Prop} (h : Frame k s t) (hk : k' → k) : Frame k' s t := ⟨h.1, fun h' => h.2 (hk h')⟩

theorem emit (h : Frame k s t) (l : String) : Frame k s (t.emit l) := h.trans (.of_eq rfl)

/-- cheaper than `split` on a goal that holds a large term of the model -/
theorem ite {c : Prop} [Decidable c] (ht : Frame k s t) (hu : Frame k s u) : Frame k s (if c then t else u) := by
  split
  · exact ht
  · exact hu

theorem haltOr {r : AState × ActEnd} (h : Frame k s t) (hr : Frame k t r.1) :
    Frame k s (if t.halted = true then (t, ActEnd.halt) else r).1 := by
  split
  · exact h
  · exact h.trans hr

theorem start (h : Frame True s t) : t.start = s.start := h.2 trivial

theorem conj (h : Frame True s t) : t.start = s.start ∧ scr t = scr s := ⟨h.start, h.1⟩

end Frame

section
variable {k : Prop}

theorem ensureBuf_frame (s : AState) : Frame k s s.ensureBuf := by
  rw [ensureBuf_eq]; exact .of_eq rfl

theorem eofRestart_frame (s : AState) : Frame k s s.eofRestart := by
  unfold AState.eofRestart
  refine .ite ?_ (.of_eq rfl)
  rw [setCurBuf_eq]; exact .of_eq rfl

theorem bufferOp_frame {cfg : Cfg} {s : AState} {op : Op} : Frame k s (bufferOp cfg s op) := by
  unfold bufferOp
  split
  · -- grab
    rw [ensureBuf_eq]; exact .of_eq rfl
  · exact .of_eq rfl  -- scanbytes
  · exact .of_eq rfl  -- scanstring
  · exact .ite (.of_eq rfl) (.of_eq rfl)  -- scanbuffer
  · exact .of_eq rfl  -- create
  · split <;> exact .of_eq rfl  -- switch
  · split <;> exact .of_eq rfl  -- pushbuf
  · -- popbuf
    split
    · exact .of_eq rfl
    · dsimp only
      split <;> exact .of_eq rfl
  · split <;> exact .of_eq rfl  -- flush
  · -- flushcur
    rw [setCurBuf_eq, ensureBuf_eq]; exact .of_eq rfl
  · -- delete
    split
    · exact .ite (.of_eq rfl) (.of_eq rfl)
    · exact .of_eq rfl
  · -- restart
    dsimp only
    rw [setCurBuf_eq, ensureBuf_eq]; exact .of_eq rfl
  · exact .of_eq rfl  -- newyyin
  · -- setlineno
    refine .ite ?_ (.of_eq rfl)
    rw [setCurBuf_eq, ensureBuf_eq]; exact .of_eq rfl
  · exact .of_eq rfl  -- the operations it refuses

/-- **Buffer operations never change the start condition** — yyrestart, yy_switch_to_buffer,
    push/pop of buffers, flush, delete, scan_*, create, new yyin. -/
theorem bufferOp_start (cfg : Cfg) (s : AState) (op : Op) : (bufferOp cfg s op).start = s.start :=
  bufferOp_frame.start

theorem doWrap_frame (s : AState) : Frame k s (doWrap s).1 := by
  unfold doWrap
  split
  · exact .of_eq rfl  -- no entry left
  · exact .of_eq rfl  -- yywrap says stop
  · -- yywrap pops the buffer stack
    dsimp only
    split <;> exact .of_eq rfl
  · dsimp only
    rw [apply_ite Prod.fst]
    refine .ite ?_ ?_
    · -- yywrap switches back to a registered buffer
      split
      · split <;> exact .of_eq rfl
      · exact .of_eq rfl
    · -- yywrap installs a new source
      rw [setCurBuf_eq]; exact .of_eq rfl

/-- **yywrap / end of a source never changes the start condition.** -/
theorem doWrap_start (s : AState) : (doWrap s).1.start = s.start := (doWrap_frame s).start

theorem inputOp_frame {cfg : Cfg} {s : AState} {fuel : Nat} : Frame k s (inputOp cfg s fuel) := by
  induction fuel generalizing s with
  | zero => exact .of_eq rfl
  | succ n ih =>
    unfold inputOp
    dsimp only
    split
    · refine .emit (.ite ?_ ?_) _
      · rw [addLineno_eq, setCurBuf_eq, ensureBuf_eq]; exact .of_eq rfl
      · rw [setCurBuf_eq, ensureBuf_eq]; exact .of_eq rfl
    · have h := (ensureBuf_frame s).trans ((eofRestart_frame _).trans (doWrap_frame (k := k) _))
      exact .ite (h.trans ih) (h.emit _)

/-- **yyinput never changes the start condition** (including across yywrap). -/
theorem inputOp_start (cfg : Cfg) (s : AState) (fuel : Nat) : (inputOp cfg s fuel).start = s.start :=
  inputOp_frame.start

theorem beginMatch_frame {M : Matcher} {cfg : Cfg} {s : AState} {inp : List UInt8} {len rule : Nat}
    {p : List UInt8} : Frame k s (beginMatch M cfg s inp len rule p) := by
  unfold beginMatch
  refine .ite (.of_eq rfl) (.emit ?_ _)
  rw [addLineno_eq, setCurBuf_eq]; exact .of_eq rfl

end

theorem commonOp_frame {cfg : Cfg} {s s' : AState} {op : Op} (h : commonOp cfg s op = some s') :
    Frame (op.setsStart = false) s s' := by
  unfold commonOp at h
  split at h
  -- begin_, push, pop set the start condition: only the scripts are claimed
  · cases h; exact ⟨rfl, nofun⟩
  · cases h; exact ⟨rfl, nofun⟩
  · split at h <;> cases h <;> exact ⟨rfl, nofun⟩
  · split at h <;> cases h <;> exact .of_eq rfl  -- top
  · cases h; exact .of_eq rfl  -- start
  · cases h; rw [setCurBuf_eq, ensureBuf_eq]; exact .of_eq rfl  -- setbol
  · cases h; exact .of_eq rfl  -- atbol
  · cases h; exact .of_eq rfl  -- getlineno
  · cases h  -- not one of its operations

/-- the other API calls (top, start, setbol, atbol, lineno queries) leave it alone too -/
theorem commonOp_start_frame (cfg : Cfg) (s s' : AState) (op : Op)
    (h : commonOp cfg s op = some s') (hop : op.setsStart = false) : s'.start = s.start :=
  (commonOp_frame h).2 hop

theorem runAction_frame (M : Matcher) (cfg : Cfg) :
    ∀ (ops : List Op) (s : AState), Frame (∀ op ∈ ops, op.setsStart = false) s (runAction M cfg s ops).1
  | [], s => .of_eq rfl
  | op :: ops, s => by
    have ih : ∀ t, Frame (∀ o ∈ op :: ops, o.setsStart = false) t (runAction M cfg t ops).1 :=
      fun t => (runAction_frame M cfg ops t).imp fun h o ho => h o (List.mem_cons_of_mem _ ho)
    unfold runAction
    refine .haltOr (.of_eq rfl) ?_
    split
    · -- yyless
      refine .trans (.emit ?_ _) (ih _)
      rw [addLineno_eq, setCurBuf_eq]; exact .of_eq rfl
    · exact .trans (.of_eq rfl) (ih _)  -- yymore
    · -- yyunput
      dsimp only
      refine .trans ?_ (ih _)
      split
      · rw [addLineno_eq, setCurBuf_eq]; exact .of_eq rfl
      · rw [setCurBuf_eq]; exact .of_eq rfl
    · -- yyinput
      dsimp only
      refine .haltOr (.trans ?_ inputOp_frame) (ih _)
      split <;> exact .of_eq rfl
    · exact .of_eq rfl  -- REJECT
    · exact .of_eq rfl  -- cont
    · -- the end of an include file pops the buffer stack
      split
      · exact ih s
      · refine .haltOr bufferOp_frame ?_
        have h := ih (bufferOp cfg s .popbuf)
        split
        · rename_i heq; rw [heq] at h; exact h
        · exact h
    · exact .of_eq rfl  -- return
    · exact .of_eq rfl  -- yyterminate
    · -- what is left is a `commonOp` or a `bufferOp`
      split
      · rename_i heq
        exact .haltOr ((commonOp_frame heq).imp fun h => h _ List.mem_cons_self) (ih _)
      · exact .haltOr bufferOp_frame (ih _)

/-- **An action that does not call yybegin / yy_push_state / yy_pop_state leaves the start
    condition unchanged**, whatever else it does (yyless, yymore, yyunput, yyinput across yywrap,
    buffer switches, yyrestart, …). -/
theorem runAction_start (M : Matcher) (cfg : Cfg) (s : AState) (ops : List Op)
    (h : ∀ op ∈ ops, op.setsStart = false) : (runAction M cfg s ops).1.start = s.start :=
  (runAction_frame M cfg ops s).2 h

/-- **push then pop is the identity** on (start condition, stack) -/
theorem push_pop (cfg : Cfg) (s : AState) (n : Nat) :
    ∃ s1 s2, commonOp cfg s (.push n) = some s1 ∧ commonOp cfg s1 .pop = some s2 ∧
      s2.start = s.start ∧ s2.sstack = s.sstack ∧ s2.halted = s.halted ∧ s1.start = n := by
  refine ⟨_, _, rfl, rfl, rfl, rfl, rfl, rfl⟩

/-- **underflow is a reported fatal error** -/
theorem pop_underflow (cfg : Cfg) (s s' : AState) (he : s.sstack = [])
    (h : commonOp cfg s .pop = some s') : s'.halted = true ∧ s'.out.back? = some "fatal underflow" := by
  simp only [commonOp, he] at h
  cases h
  exact ⟨rfl, Array.back?_push⟩

def pushAll (cfg : Cfg) (s : AState) : List Nat → AState
  | [] => s
  | n :: ns => match commonOp cfg s (.push n) with
    | some s' => pushAll cfg s' ns
    | none => s

/-- popping `k` times, collecting the start condition found after each pop -/
def popAll (cfg : Cfg) (s : AState) : Nat → AState × List Nat
  | 0 => (s, [])
  | k + 1 => match commonOp cfg s .pop with
    | some s' => let (s'', l) := popAll cfg s' k; (s'', s'.start :: l)
    | none => (s, [])

/-- the start condition on top of its stack -/
def stk (s : AState) : List Nat := s.start :: s.sstack

theorem pushAll_stk (cfg : Cfg) (s : AState) (ns : List Nat) :
    stk (pushAll cfg s ns) = ns.reverse ++ stk s ∧ (pushAll cfg s ns).halted = s.halted := by
  induction ns generalizing s with
  | nil => exact ⟨rfl, rfl⟩
  | cons n ns ih =>
    obtain ⟨h1, h2⟩ := ih { s with sstack := s.start :: s.sstack, start := n }
    exact ⟨by rw [List.reverse_cons, List.append_assoc]; exact h1, h2⟩

theorem popAll_stk (cfg : Cfg) : ∀ (k : Nat) (s : AState), k < (stk s).length →
    (popAll cfg s k).2 = (stk s).tail.take k ∧ stk (popAll cfg s k).1 = (stk s).drop k ∧
      (popAll cfg s k).1.halted = s.halted
  | 0, s, _ => ⟨rfl, rfl, rfl⟩
  | k + 1, s, hk => by
    cases hs : s.sstack with
    | nil => simp [stk, hs] at hk
    | cons t rest =>
      rw [stk, hs] at hk
      obtain ⟨h1, h2, h3⟩ := popAll_stk cfg k { s with start := t, sstack := rest } (Nat.lt_of_succ_lt_succ hk)
      simp only [popAll, commonOp, hs]
      exact ⟨by rw [h1]; simp [stk, hs], by rw [h2]; simp [stk, hs], h3⟩

/-- **LIFO**, for stacks of any depth: after pushing `n₁ … n_k`, `k` pops yield the start
    conditions that were current before each push, most recent first, and restore the start
    condition and the stack (no bound on the depth). -/
theorem stack_lifo (cfg : Cfg) (s : AState) (ns : List Nat) :
    let r := popAll cfg (pushAll cfg s ns) ns.length
    r.1.start = s.start ∧ r.1.sstack = s.sstack ∧ r.1.halted = s.halted ∧
      r.2 = ((s.start :: ns).take ns.length).reverse := by
  obtain ⟨h1, h2⟩ := pushAll_stk cfg s ns
  obtain ⟨p1, p2, p3⟩ := popAll_stk cfg ns.length (pushAll cfg s ns) (by rw [h1]; simp [stk])
  rw [h1] at p1
  rw [h1, List.drop_left' (List.length_reverse ..)] at p2
  refine ⟨(List.cons.inj p2).1, (List.cons.inj p2).2, p3.trans h2, ?_⟩
  -- what the pops report is the stack after the pushes, down to where it was before
  have : List.take ns.length (s.start :: ns) = (s.start :: ns).dropLast := by simp [List.dropLast_eq_take]
  rw [p1, this, ← List.tail_reverse, List.reverse_cons, stk, List.append_cons,
    List.tail_append_of_ne_nil (by simp), List.take_left' (by simp)]

/-- non-vacuity: a concrete history -/
example : (popAll {} (pushAll {} ({} : AState) [2, 1, 3]) 3).2 = [1, 2, 0] := by decide

end FlexVerif
