/-
  Props/C08UnputC99.lean — C08: `yyunput()` of the **c99 back end** (`Gen/UnputC99.lean`).  The function has no `yy_bp`
  parameter: where the default skeleton's `yyunput_r` moves `yy_bp` and copies it to `yytext_ptr` at the end, this
  one moves `yytext_r` itself (translated as the same variable 7).  The two programs are the same text up to that
  copy, so every run of one is a run of the other up to the variable `yytext_ptr`, and `unput_spec` carries over.
-/
import FlexVerif.Gen.UnputC99
import FlexVerif.Props.C08Unput
namespace FlexVerif.C08UnputC99
open FlexVerif.Imp FlexVerif.Gen.Unput FlexVerif.C08Unput

def tail99 : St :=
  .seq (.seq (.assign 6 (.add (.var 6) (.lit (-1)))) (.store (.var 6) (.var 11)))
  (.seq (.assign 1 (.idx (.var 6))) (.assign 0 (.var 6)))

theorem unput99_shape : Gen.UnputC99.unput =
    .seq pre1 (.seq pre2 (.seq (.ite needShift (.seq sh1 (.seq sh2 (.seq sh3 (.seq (.while_ copyCond copyBody) shRest)))) .skip) tail99)) := rfl

/-- the default skeleton's extra statement: `yytext_ptr = yy_bp` -/
def withText (s : State) : State := { s with vars := fun y => if y = 5 then s.vars 7 else s.vars y }

/-- the same outcome and, where the functions return, the same state once `yytext_ptr = yy_bp` is done to the c99 one -/
def Rel (r r99 : State × Outcome) : Prop := r.2 = r99.2 ∧ (r.2 = .normal → r.1 = withText r99.1)

theorem seq_rel {a t t' : St} (h : ∀ s, Rel (t.run s) (t'.run s)) (s : State) : Rel ((St.seq a t).run s) ((St.seq a t').run s) := by
  cases ha : a.run s with
  | mk s1 o =>
    by_cases ho : o = .normal
    · subst ho
      rw [run_seq_normal ha, run_seq_normal ha]; exact h s1
    · rw [run_seq_stop ha ho, run_seq_stop ha ho]; exact ⟨rfl, fun hn => absurd hn ho⟩

theorem tail_rel (s : State) : Rel (tail_.run s) (tail99.run s) := by
  refine seq_rel (fun s1 => ?_) s
  rw [run_seq_normal (run_assign_some rfl)]
  -- `yytext_ptr = yy_bp` coming first does not change what `yy_hold_char = *yy_cp` reads
  have h5 : (Ex.idx (.var 6)).eval (setVar s1 5 (s1.vars 7)) = (Ex.idx (.var 6)).eval s1 := rfl
  cases hi : (Ex.idx (.var 6)).eval s1 with
  | none =>
    simp only [St.run, h5, hi]
    exact ⟨rfl, nofun⟩
  | some v =>
    rw [run_seq_normal (run_assign_some (h5.trans hi)), run_seq_normal (run_assign_some hi), run_assign_some rfl,
      run_assign_some rfl]
    refine ⟨rfl, fun _ => State.ext (fun y => ?_) rfl rfl⟩
    by_cases hy : y = 5
    · subst hy; rfl
    · simp [withText, Imp.setVar_vars, hy]

/-- **the default skeleton's function and the c99 skeleton's agree up to `yytext_ptr`** -/
theorem unput_rel (s : State) : Rel (unput.run s) (Gen.UnputC99.unput.run s) :=
  seq_rel (seq_rel (seq_rel tail_rel)) s

/-- the state the c99 function leaves: as `Post`, the text pointer being variable 7 -/
structure Post99 (s' : State) (B n' p' bp' : Nat) : Prop where
  len : s'.arr.length = B + 2
  hn : n' ≤ B
  vn : s'.vars 2 = n'
  vb : s'.vars 4 = B
  hp : p' ≤ n'
  vp : s'.vars 0 = p'
  hbp : bp' ≤ p' + 1
  vtp : s'.vars 7 = bp'
  eob1 : (s'.arr.set p' (s'.vars 1))[n']? = some 0
  eob2 : s'.arr[n' + 1]? = some 0

/-- **C08, yyunput() of the c99 back end**: the statement of `unput_spec` -/
theorem unput99_spec {s : State} {B n p bp : Nat} {c : Int} (h : Pre s B n p bp) (hc : s.vars 11 = c) :
    (p < 2 ∧ p + (B - n) < 2 → (Gen.UnputC99.unput.run s).2 = .fatal pushbackMsg) ∧
    (¬ (p < 2 ∧ p + (B - n) < 2) → ∃ s' n' p' bp', Gen.UnputC99.unput.run s = (s', .normal) ∧ Post99 s' B n' p' bp' ∧
        unread s' n' p' = c :: unread s n p ∧ (n' ≠ n → s'.vars 3 = n')) := by
  obtain ⟨hf, hn⟩ := unput_spec h hc
  obtain ⟨ho, hs⟩ := unput_rel s
  generalize Gen.UnputC99.unput.run s = r99 at ho hs ⊢
  refine ⟨fun hc' => ho ▸ hf hc', fun hno => ?_⟩
  obtain ⟨sD, n', p', bp', hr, hP, hu, h3⟩ := hn hno
  rw [hr] at ho hs
  obtain rfl := hs rfl
  -- variable 5 occurs in `Post` only as the text pointer, and in `unread` not at all
  exact ⟨_, n', p', bp', Prod.ext rfl ho.symm,
    ⟨hP.len, hP.hn, hP.vn, hP.vb, hP.hp, hP.vp, hP.hbp, hP.vtp, hP.eob1, hP.eob2⟩, hu, h3⟩

end FlexVerif.C08UnputC99
