/-
  Props/C08YYLess.lean — C08 / C09, yyless(n): the two programs of `Gen/YYLess.lean`, translated by
  `tools/fv/gen_yyless.py` from the two definitions of the `yyless` macro in a scanner flex has just generated with
  `%option yylineno`: the one actions use and the one "redefined so it works in section 3 code".
-/
import FlexVerif.Imp.Lemmas
import FlexVerif.Gen.YYLess
namespace FlexVerif.C08YYLess
open FlexVerif.Imp FlexVerif.Gen.YYLess

@[simp] theorem setVar_arr' (s : State) (x : Nat) (v : Int) : (setVar s x v).arr = s.arr := rfl
@[simp] theorem setVar_log' (s : State) (x : Nat) (v : Int) : (setVar s x v).log = s.log := rfl

def cntNl (arr : List Int) : Nat → Nat → Nat
  | _, 0 => 0
  | k, m + 1 => (if arr.getD k 0 = 10 then 1 else 0) + cntNl arr (k + 1) m

def lnCond : Ex := .lt (.var 8) (.var 3)
def lnBody : St :=
  .seq (.ite (.eq (.idx (.add (.var 2) (.var 8))) (.lit 10)) (.assign 4 (.add (.var 4) (.lit (-1)))) .skip)
       (.assign 8 (.add (.var 8) (.lit 1)))

theorem lnBody_run {s : State} {t i : Nat} (h2 : s.vars 2 = t) (h8 : s.vars 8 = i) (hi : t + i < s.arr.length) :
    lnBody.run s = (setVar (setVar s 4 (s.vars 4 - ((if s.arr.getD (t + i) 0 = 10 then 1 else 0 : Nat) : Int))) 8 ((i + 1 : Nat) : Int),
      .normal) := by
  have hc : (Ex.eq (.idx (.add (.var 2) (.var 8))) (.lit 10)).eval s = some (b2i (decide (s.arr[t + i] = 10))) :=
    eval_eq_some (eval_idx_at (x := t + i) (by simp [Ex.eval, h2, h8]) (by omega) hi) rfl
  rw [List.getD_eq_getElem?_getD, List.getElem?_eq_getElem hi, Option.getD_some]
  refine Runs.run_eq (.seq ?_)
  by_cases hnl : s.arr[t + i] = 10
  · exact .ite_pos hc hnl (.assign rfl (.assign rfl (by simp [hnl, h8, setVar_vars, Int.sub_eq_add_neg])))
  · exact .ite_neg hc hnl (.skip (.assign rfl (by simp [hnl, h8, setVar_self])))

/-- the YY_LESS_LINENO loop -/
theorem ln_loop : ∀ (m : Nat) (s : State) (t i L fuel : Nat), s.vars 2 = t → s.vars 8 = i → s.vars 3 = L →
    i + m = L → t + L ≤ s.arr.length → m + 1 ≤ fuel →
    loop (fun s' => lnCond.eval s') (fun s' => lnBody.run s') fuel s =
      (setVar (setVar s 4 (s.vars 4 - (cntNl s.arr (t + i) m : Nat))) 8 (L : Int), .normal) := by
  intro m
  induction m with
  | zero =>
    intro s t i L fuel h2 h8 h3 hiL _ hf
    rw [loop_done (by omega) (by simp [lnCond, Ex.eval, h8, h3, ← hiL, b2i]), cntNl,
      setVar_self (s := s) (by simp), setVar_self (by rw [h8, ← hiL]; rfl)]
  | succ m ih =>
    intro s t i L fuel h2 h8 h3 hiL hlen hf
    have hc : lnCond.eval s = some (b2i ((i : Int) < L)) := by simp [lnCond, Ex.eval, h8, h3]
    rw [loop_step (by omega) hc (b2i_decide_ne_zero.mpr (by omega)) (lnBody_run h2 h8 (by omega)),
      ih _ t (i + 1) L _ (by simpa [setVar_vars] using h2) (by simp) (by simpa [setVar_vars] using h3)
        (by omega) (by simpa using hlen) (by omega)]
    congr 1
    refine State.ext (fun y => ?_) rfl rfl
    simp only [cntNl, setVar_vars, setVar_arr, Nat.add_assoc]
    by_cases h8 : y = 8
    · simp [h8]
    · by_cases h4 : y = 4
      · simp [h4]; omega
      · simp [h8, h4]

/-- what `yyless(n)` has to leave of the token of `L` characters at offset `t`: yytext keeps its first `n` characters, the
    scan position is right after them, the character there is in yy_hold_char and replaced by the terminating NUL, the
    cell that ended the old yytext has its character back, yylineno is down by the newlines given back -/
structure Out (s s' : State) (t L n : Nat) : Prop where
  text : s'.vars 2 = t
  leng : s'.vars 3 = n
  pos : s'.vars 0 = (t + n : Nat)
  hold : some (s'.vars 1) = (s.arr.set (t + L) (s.vars 1))[t + n]?
  arr : s'.arr = (s.arr.set (t + L) (s.vars 1)).set (t + n) 0
  lineno : s'.vars 4 = s.vars 4 - (cntNl s.arr (t + n) (L - n) : Nat)

/-- the state `yyless(n)` is called in.  `fits`: the cell after the token, which yyless gives its character back from
    yy_hold_char, is in the buffer; that it holds the terminating NUL (as it does at a call) is not needed -/
structure In (s : State) (t L n : Nat) : Prop where
  text : s.vars 2 = t
  leng : s.vars 3 = L
  arg : s.vars 9 = n
  hn : n ≤ L
  fits : t + L < s.arr.length

/-- both definitions begin with `int yyless_macro_arg = (n); YY_LESS_LINENO(yyless_macro_arg);` -/
theorem _root_.FlexVerif.Imp.Runs.lineno {s : State} {t L n : Nat} (h : In s t L n) {rest : St} {Q : State → Prop}
    (hrest : Runs rest (setVar (setVar (setVar (setVar s 7 n) 8 n) 4 (s.vars 4 - (cntNl s.arr (t + n) (L - n) : Nat))) 8 L) .normal Q) :
    Runs (.seq (.assign 7 (.var 9)) (.seq (.seq (.assign 8 (.var 7)) (.while_ lnCond lnBody)) rest)) s .normal Q := by
  refine .seq (.assign (congrArg some h.arg) (.seq (.seq (.assign (congrArg some (setVar_same ..)) (.while_ ?_ hrest)))))
  have := h.hn
  have := h.fits
  exact ln_loop (L - n) _ t n L _ (by simpa [setVar_vars] using h.text) (by simp) (by simpa [setVar_vars] using h.leng)
    (by omega) (by simp; omega) (by simp; omega)

/-- `yy_cp` and `yy_bp` are the action's: the end and the start of the token -/
theorem less_action_spec {s : State} {t L n : Nat} (h : In s t L n) (hcp : s.vars 5 = (t + L : Nat)) (hbp : s.vars 6 = t) :
    ∃ s', lessAction.run s = (s', .normal) ∧ Out s s' t L n := by
  have hn : t + n < s.arr.length := by have := h.hn; have := h.fits; omega
  refine Runs.lineno h (.seq (.store (n := t + L) rfl rfl ?_ h.fits (.seq (.seq (.assign rfl (.assign rfl (.seq (.assign rfl
    (.seq (.assign rfl (.seq (.assign (eval_idx_at (n := t + n) rfl ?_ ?_) (.seq (.store (n := t + n) rfl rfl ?_ ?_
    (.assign rfl ?_)))))))))))))))
  -- the conditions on the indices go; in the last goal, `Out`, the final state is worked out
  all_goals simp [setVar_vars, hcp, hbp, hn]
  exact { text := rfl, leng := by simp [setVar_vars]; omega, pos := by simp, hold := by simp [setVar_vars, hn],
          arr := rfl, lineno := rfl }

theorem less_section3_spec {s : State} {t L n : Nat} (h : In s t L n) :
    ∃ s', lessSection3.run s = (s', .normal) ∧ Out s s' t L n := by
  have hn : t + n < s.arr.length := by have := h.hn; have := h.fits; omega
  refine Runs.lineno h (.seq (.store (n := t + L) rfl rfl ?_ h.fits (.seq (.assign rfl (.seq
    (.assign (eval_idx_at (n := t + n) rfl ?_ ?_) (.seq (.store (n := t + n) rfl rfl ?_ ?_ (.assign rfl ?_)))))))))
  all_goals simp [setVar_vars, h.text, h.leng, hn]
  exact { text := h.text, leng := by simp, pos := by simp [setVar_vars], hold := by simp [setVar_vars, hn],
          arr := rfl, lineno := rfl }

/-- **C08 / C09, yyless**: the two definitions of `yyless(n)` do the same to the token, the scan
    position, the hold character, the buffer and yylineno -/
theorem both_definitions_agree {s : State} {t L n : Nat} (h : In s t L n) (hcp : s.vars 5 = (t + L : Nat)) (hbp : s.vars 6 = t) :
    ∃ sa s3, lessAction.run s = (sa, .normal) ∧ lessSection3.run s = (s3, .normal) ∧
      sa.arr = s3.arr ∧ sa.vars 0 = s3.vars 0 ∧ sa.vars 1 = s3.vars 1 ∧ sa.vars 2 = s3.vars 2 ∧ sa.vars 3 = s3.vars 3 ∧
      sa.vars 4 = s3.vars 4 := by
  obtain ⟨sa, ha, oa⟩ := less_action_spec h hcp hbp
  obtain ⟨s3, h3, o3⟩ := less_section3_spec h
  exact ⟨sa, s3, ha, h3, by rw [oa.arr, o3.arr], by rw [oa.pos, o3.pos], Option.some.inj (oa.hold.trans o3.hold.symm),
    by rw [oa.text, o3.text], by rw [oa.leng, o3.leng], by rw [oa.lineno, o3.lineno]⟩

/-- the premises can be met: the token "a\nb\n" at offset 1, yyless(1) gives two newlines back -/
def sEx : State :=
  { vars := fun y => if y = 1 then 120 else if y = 2 then 1 else if y = 3 then 4 else if y = 4 then 7 else if y = 5 then 5
              else if y = 6 then 1 else if y = 9 then 1 else 0,
    arr := [5, 97, 10, 98, 10, 0, 121, 0, 0], log := [] }

example : (lessAction.run sEx).2 = .normal ∧ (lessAction.run sEx).1.vars 4 = 5 ∧ (lessAction.run sEx).1.vars 3 = 1 ∧
    (lessAction.run sEx).1.arr = [5, 97, 0, 98, 10, 120, 121, 0, 0] ∧ (lessAction.run sEx).1.vars 1 = 10 ∧
    (lessSection3.run sEx).1.vars 4 = 5 ∧ (lessSection3.run sEx).1.arr = [5, 97, 0, 98, 10, 120, 121, 0, 0] := by decide

end FlexVerif.C08YYLess
