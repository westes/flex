/-
  Props/C06.lean — trailing context: what the action sees.

  For a rule `r/s` the scanner matches `rs` (that is what competes with the other rules) and hands
  the action the part matched by `r`.  When both parts have variable length the split is not
  determined by the lengths; the abstract scanner takes the *longest* head (`longestSplit`), and
  this file shows that `longestSplit` is exactly that: a split of the matched text into a string of
  `r` followed by a string of `s`, with no longer head possible.
-/
import FlexVerif.Runtime.Match
namespace FlexVerif

theorem Re.matchesB_iff (r : Re) (w : List UInt8) : r.matchesB w = true ↔ r.Matches w := by
  unfold Re.matchesB
  simp only [Bool.not_eq_true', List.isEmpty_eq_false_iff]
  constructor
  · intro h
    obtain ⟨t, ht⟩ := List.exists_mem_of_ne_nil _ h
    rw [SState.mem_accTags_run] at ht
    obtain ⟨p, hp, hm⟩ := ht
    simp only [List.mem_singleton, Prod.mk.injEq] at hp
    rw [← hp.2]; exact hm
  · intro h
    have : (0 : Nat) ∈ (SState.run [((0 : Nat), r)] w).accTags := by
      rw [SState.mem_accTags_run]; exact ⟨r, by simp, h⟩
    exact List.ne_nil_of_mem this

/-- `k` splits the first `len` bytes of `inp` into a head and a trail -/
def IsSplit (head trail : Re) (inp : List UInt8) (len k : Nat) : Prop :=
  head.Matches ((inp.take len).take k) ∧ trail.Matches ((inp.take len).drop k)

theorem longestSplit_go_spec (head trail : Re) (w : List UInt8) :
    ∀ n, (longestSplit.go head trail w n ≤ n) ∧
      (0 < longestSplit.go head trail w n →
        head.Matches (w.take (longestSplit.go head trail w n)) ∧
        trail.Matches (w.drop (longestSplit.go head trail w n))) ∧
      (∀ k, longestSplit.go head trail w n < k → k ≤ n →
        ¬ (head.Matches (w.take k) ∧ trail.Matches (w.drop k)))
  | 0 => ⟨Nat.le_refl _, fun h => absurd h (Nat.lt_irrefl _), fun k h1 h2 => absurd h1 (Nat.not_lt_of_le h2)⟩
  | n + 1 => by
    unfold longestSplit.go
    split
    · rename_i hm
      simp only [Bool.and_eq_true, Re.matchesB_iff] at hm
      exact ⟨Nat.le_refl _, fun _ => hm, fun k h1 h2 => absurd h1 (Nat.not_lt_of_le h2)⟩
    · rename_i hm
      simp only [Bool.and_eq_true, Re.matchesB_iff] at hm
      obtain ⟨i1, i2, i3⟩ := longestSplit_go_spec head trail w n
      refine ⟨Nat.le_succ_of_le i1, i2, fun k h1 h2 => ?_⟩
      cases Nat.lt_or_eq_of_le h2 with
      | inl h => exact i3 k h1 (Nat.le_of_lt_succ h)
      | inr h => exact h ▸ hm

/-- **What a trailing-context action sees**: a positive result of `longestSplit` is a split of the
    matched text into head and trailing context, and no longer head gives such a split. -/
theorem longestSplit_spec (head trail : Re) (inp : List UInt8) (len : Nat) :
    (0 < longestSplit head trail inp len → IsSplit head trail inp len (longestSplit head trail inp len)) ∧
    (∀ k, longestSplit head trail inp len < k → k ≤ len → ¬ IsSplit head trail inp len k) ∧
    longestSplit head trail inp len ≤ len := by
  obtain ⟨h1, h2, h3⟩ := longestSplit_go_spec head trail (inp.take len) len
  exact ⟨h2, h3, h1⟩

end FlexVerif
