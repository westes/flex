/-
  Props/C01StepGen.lean — C01 / C02: `yy_get_previous_state()` and `yy_try_NUL_trans()`, translated from scanners flex
  has just generated with -Cem, -Ce, -Cm and -C (`Gen/PrevState*.lean`, which list the variable and table numbers), walk
  the tables as the decoders of `Validator/Tables.lean` do: whenever the decoder's step is not `bad` (the validator
  establishes that for every reachable state), the code reads every table inside its bounds, the default-chain loop
  ends, and the state it arrives at is the decoder's.  The four variants differ only in the body of the default-chain
  loop (with or without the `yy_meta` step) and in the expression that maps a buffer cell to its column (through
  `yy_ec` or not), so everything is proved once, for any loop body `B` and class expression `CE` that do what the
  decoder does in their place (`BodyOK`, `ClassOK`), and instantiated four times.
  Namespace `C01Step` comes first, with what does not depend on the variant: that a state holds the scanner's tables
  (`TablesIn`, over `Holds` of `Imp/Tables.lean`), the shared pieces of program text, what a round of the decoder's
  `compStep` has read.  `Props/C01Step.lean` goes on in it with the -Cem instance.  Namespace `C01StepGen` follows, with the
  proofs for any `B` and `CE`, over `cellStepOf` / `walkOf` (the column of a non-NUL byte left open).  Its `cellStep` / `walk` are
  those at the decoder's `classOf` (`yy_ec` or the byte itself, by `T.useEcs`), `C01Step.cellStep` / `walk` those at `yy_ec`, which
  the -Cem code reads whatever `T.useEcs` says (`walk_eq` in either namespace).
-/
import FlexVerif.Imp.Tables
import FlexVerif.Gen.PrevState
import FlexVerif.Gen.PrevStateCe
import FlexVerif.Gen.PrevStateCm
import FlexVerif.Gen.PrevStateC

namespace FlexVerif.C01Step
open FlexVerif.Imp

/-- the tables of `T` are the scanner's, YY_JAMSTATE and YY_NUL_EC its constants -/
structure TablesIn (s : State) (T : Tables) : Prop where
  ec : Holds s 0 T.ec
  accept : Holds s 1 T.accept
  base : Holds s 2 T.base
  chk : Holds s 3 T.chk
  deflt : Holds s 4 T.deflt
  nxt : Holds s 5 T.nxt
  metaEc : Holds s 6 T.metaEc
  jam : s.vars 11 = T.jamState
  nulEc : s.vars 10 = T.nulEc

theorem tablesIn_setVar {s : State} {T : Tables} (h : TablesIn s T) (x : Nat) (v : Int) (hx : x < 10) :
    TablesIn (setVar s x v) T :=
  ⟨holds_setVar h.ec x v (by omega), holds_setVar h.accept x v (by omega), holds_setVar h.base x v (by omega),
   holds_setVar h.chk x v (by omega), holds_setVar h.deflt x v (by omega), holds_setVar h.nxt x v (by omega),
   holds_setVar h.metaEc x v (by omega), (setVar_ne s v (by omega)).trans h.jam, (setVar_ne s v (by omega)).trans h.nulEc⟩

/-! `stepCond`, `stepBody`, `stepNxt`: `while ( yy_chk[yy_base[s] + yy_c] != s ) { s = yy_def[s]; if ( s >= YY_JAMSTATE + 1 )
    yy_c = yy_meta[yy_c]; }  s = yy_nxt[yy_base[s] + yy_c];` with `s` for `yy_current_state`.  `saveAcc` is the back-up
    bookkeeping, which reads `yy_accept[s]`. -/

def stepCond : Ex := .not (.eq (.tab 3 (.add (.tab 2 (.var 0)) (.var 2))) (.var 0))
def stepBody : St :=
  .seq (.assign 0 (.tab 4 (.var 0))) (.ite (.le (.add (.var 11) (.lit 1)) (.var 0)) (.assign 2 (.tab 6 (.var 2))) .skip)
def stepNxt : St := .assign 0 (.tab 5 (.add (.tab 2 (.var 0)) (.var 2)))
def saveAcc : St := .ite (.tab 1 (.var 0)) (.seq (.assign 7 (.var 0)) (.assign 8 (.var 1))) .skip
def forCond : Ex := .lt (.var 1) (.var 5)

theorem saveAcc_run {s : State} {T : Tables} (hT : TablesIn s T) (ha : rd T.accept (s.vars 0) ≠ none) :
    ∃ a b, saveAcc.run s = (setVar (setVar s 7 a) 8 b, .normal) := by
  obtain ⟨a, h⟩ := Option.ne_none_iff_exists'.mp ha
  rw [saveAcc, run_ite_some ((tab_eval hT.accept (.var 0) (s.vars 0) rfl).trans h)]
  by_cases hz : a = 0
  · exact ⟨s.vars 7, s.vars 8, by simp [hz, St.run, setVar_self]⟩
  · exact ⟨s.vars 0, s.vars 1, by simp [hz]; rfl⟩

/-- the state number a decoder result stands for in the code (the jam state is a state of the tables) -/
def valOf (T : Tables) : DState → Int
  | .st n => n
  | .jam => T.jamState
  | .bad => 0

theorem valOf_nxt (T : Tables) (n : Int) : valOf T (if n = T.jamState then .jam else .st n) = n := by
  split
  · next h => exact h.symm
  · rfl

/-- a round of `compStep` that is not `bad` has read `yy_base` and `yy_chk`; then either `yy_chk` confirms and `yy_nxt`
    is read, or `yy_def` (and, for a template state, `yy_meta`) is read and the chain goes on -/
theorem compStep_succ {T : Tables} {fuel : Nat} {cur c : Int} (h : T.compStep (fuel + 1) cur c ≠ .bad) :
    ∃ b k, rd T.base cur = some b ∧ rd T.chk (b + c) = some k ∧
      ((k = cur ∧ ∃ n, rd T.nxt (b + c) = some n ∧ T.compStep (fuel + 1) cur c = if n = T.jamState then .jam else .st n) ∨
       (k ≠ cur ∧ ∃ d c', rd T.deflt cur = some d ∧
        (if T.useMecs && decide (d ≥ T.jamState + 1) then rd T.metaEc c else some c) = some c' ∧
        T.compStep (fuel + 1) cur c = T.compStep fuel d c')) := by
  simp only [Tables.compStep] at h ⊢
  cases hb : rd T.base cur with
  | none => simp [hb] at h
  | some b =>
    cases hk : rd T.chk (b + c) with
    | none => simp [hb, hk] at h
    | some k =>
      refine ⟨b, k, rfl, hk, ?_⟩
      simp only [hb, hk] at h ⊢
      by_cases hks : k = cur
      · rw [if_pos hks] at h ⊢
        cases hn : rd T.nxt (b + c) with
        | none => simp [hn] at h
        | some n => exact .inl ⟨hks, n, rfl, rfl⟩
      · rw [if_neg hks] at h ⊢
        cases hd : rd T.deflt cur with
        | none => simp [hd] at h
        | some d =>
          rw [hd] at h
          by_cases hm : (T.useMecs && decide (d ≥ T.jamState + 1)) = true
          · cases hme : rd T.metaEc c with
            | none => simp [hm, hme] at h
            | some c' => exact .inr ⟨hks, d, c', rfl, if_pos hm, if_pos hm⟩
          · exact .inr ⟨hks, d, c, rfl, if_neg hm, if_neg hm⟩

theorem compStep_st_ne_jam {T : Tables} : ∀ {fuel : Nat} {cur c n : Int}, T.compStep fuel cur c = .st n → n ≠ T.jamState := by
  intro fuel
  induction fuel with
  | zero => intro _ _ _ h; simp [Tables.compStep] at h
  | succ fuel ih =>
    intro cur c n h
    have hnb : T.compStep (fuel + 1) cur c ≠ .bad := h ▸ nofun
    obtain ⟨_, _, -, -, ⟨-, m, -, hm⟩ | ⟨-, _, _, -, -, hv⟩⟩ := compStep_succ hnb
    · rw [h] at hm
      by_cases hj : m = T.jamState
      · rw [if_pos hj] at hm; cases hm
      · rw [if_neg hj] at hm; cases hm; exact hj
    · exact ih (hv ▸ h)

end FlexVerif.C01Step

namespace FlexVerif.C01StepGen
open FlexVerif.Imp FlexVerif.C01Step

/-- one round of the default-chain loop does what the decoder does there -/
structure BodyOK (T : Tables) (B : St) : Prop where
  withMeta : T.useMecs = true → ∀ (s : State) (d c' : Int), TablesIn s T → rd T.deflt (s.vars 0) = some d → d ≥ T.jamState + 1 →
    rd T.metaEc (s.vars 2) = some c' → B.run s = (setVar (setVar s 0 d) 2 c', .normal)
  plain : ∀ (s : State) (d : Int), TablesIn s T → rd T.deflt (s.vars 0) = some d → ¬ (T.useMecs = true ∧ d ≥ T.jamState + 1) →
    B.run s = (setVar s 0 d, .normal)

theorem BodyOK.run {T : Tables} {B : St} (hB : BodyOK T B) {s : State} {d c' : Int} (hT : TablesIn s T)
    (hd : rd T.deflt (s.vars 0) = some d)
    (hc : (if T.useMecs && decide (d ≥ T.jamState + 1) then rd T.metaEc (s.vars 2) else some (s.vars 2)) = some c') :
    B.run s = (setVar (setVar s 0 d) 2 c', .normal) := by
  split at hc
  · next h =>
    have h : T.useMecs = true ∧ d ≥ T.jamState + 1 := by simpa using h
    exact hB.withMeta h.1 s d c' hT hd h.2 hc
  · next h =>
    cases hc
    rw [hB.plain s d hT hd (by simpa using h), setVar_self (setVar_ne s d (by decide))]

/-- the default-chain loop with body `B`.  Its bound: variable 5004 is `tabLen 4`, the length of `yy_def` (the number of states),
    so the loop is given the decoder's fuel `T.deflt.size + 2` (`step_code`) -/
def loopOf (B : St) : St := .whileB (.add (.var 5004) (.lit 2)) stepCond B

/-- two fuels: `fuel` is the decoder's, on which the induction runs, `f` the loop's.  A round of the loop is a round of `compStep`,
    which is not `bad` and so ends before its fuel does: any `f ≥ fuel` will do.  `step_code` takes both as `T.deflt.size + 2` -/
theorem comp_code (T : Tables) (B : St) (hB : BodyOK T B) : ∀ (fuel : Nat) (s : State) (f : Nat), TablesIn s T → fuel ≤ f →
    T.compStep fuel (s.vars 0) (s.vars 2) ≠ .bad →
    ∃ s1, loop (fun s' => stepCond.eval s') (fun s' => B.run s') f s = (s1, .normal) ∧
      stepNxt.run s1 = (setVar s1 0 (valOf T (T.compStep fuel (s.vars 0) (s.vars 2))), .normal) ∧
      TablesIn s1 T ∧ (∀ y, y ≠ 0 → y ≠ 2 → s1.vars y = s.vars y) ∧ s1.arr = s.arr ∧ s1.log = s.log := by
  intro fuel
  induction fuel with
  | zero => intro s f _ _ h; simp [Tables.compStep] at h
  | succ fuel ih =>
    intro s f hT hf hnb
    obtain ⟨b, k, hb, hk, h⟩ := compStep_succ hnb
    have hsum : (Ex.add (.tab 2 (.var 0)) (.var 2)).eval s = some (b + s.vars 2) :=
      eval_add_some ((tab_eval hT.base (.var 0) _ rfl).trans hb) rfl
    have hcond : stepCond.eval s = some (b2i (b2i (k == s.vars 0) == 0)) :=
      eval_not_some (eval_eq_some ((tab_eval hT.chk _ _ hsum).trans hk) rfl)
    obtain ⟨hks, n, hn, hv⟩ | ⟨hks, d, c', hd, hc', hv⟩ := h
    · -- the entry is this state's: the loop ends, yy_nxt is read
      refine ⟨s, loop_done (by omega) (by rw [hcond]; simp [hks, b2i]), ?_, hT, fun _ _ _ => rfl, rfl, rfl⟩
      rw [hv, valOf_nxt]
      exact run_assign_some ((tab_eval hT.nxt _ _ hsum).trans hn)
    · -- a round of the loop follows the default chain
      rw [hv] at hnb ⊢
      obtain ⟨s1, hl, hn, hT', hfr, ha, hlg⟩ := ih (setVar (setVar s 0 d) 2 c') (f - 1)
        (tablesIn_setVar (tablesIn_setVar hT 0 d (by omega)) 2 c' (by omega)) (by omega) hnb
      refine ⟨s1, ?_, hn, hT', fun y h0 h2 => ?_, ha, hlg⟩
      · rw [loop_step (by omega) hcond (by simp [hks, b2i]) (hB.run hT hd hc')]; exact hl
      · rw [hfr y h0 h2, setVar_ne _ _ h2, setVar_ne _ _ h0]

/-- the loop with its bound, then the `yy_nxt` read: one call of the decoder's `compStep` with the decoder's fuel -/
theorem step_code (T : Tables) (B : St) (hB : BodyOK T B) (s : State) (hT : TablesIn s T)
    (hnb : T.compStep (T.deflt.size + 2) (s.vars 0) (s.vars 2) ≠ .bad) :
    ∃ s1, (St.seq (loopOf B) stepNxt).run s =
        (setVar s1 0 (valOf T (T.compStep (T.deflt.size + 2) (s.vars 0) (s.vars 2))), .normal) ∧
      TablesIn s1 T ∧ (∀ y, y ≠ 0 → y ≠ 2 → s1.vars y = s.vars y) ∧ s1.arr = s.arr ∧ s1.log = s.log := by
  obtain ⟨s1, hl, hn, h⟩ := comp_code T B hB (T.deflt.size + 2) s (T.deflt.size + 2) hT (Nat.le_refl _) hnb
  refine ⟨s1, ?_, h⟩
  have hb : (Ex.add (.var 5004) (.lit 2)).eval s = some ((T.deflt.size : Int) + 2) :=
    congrArg (fun x : Int => some (x + 2)) hT.deflt.len
  have hrun : (loopOf B).run s = (s1, .normal) := by
    simp only [loopOf, St.run, hb]
    rwa [show ((T.deflt.size : Int) + 2).toNat = T.deflt.size + 2 by omega]
  rw [run_seq_normal hrun, hn]

def nulTransOf (B : St) : St :=
  .seq (.assign 1 (.var 5)) (.seq (.assign 2 (.var 10)) (.seq saveAcc (.seq (loopOf B) (.seq stepNxt
    (.seq (.assign 9 (.eq (.var 0) (.var 11))) (.ret (.cond (.var 9) (.lit 0) (.var 0))))))))

theorem nulTrans_spec (T : Tables) (B : St) (hB : BodyOK T B) (hk : T.kind = .compressed) (hnt : T.hasNulTrans = false)
    (s : State) (hT : TablesIn s T) (ha : rd T.accept (s.vars 0) ≠ none) (hnb : T.stepByte (s.vars 0) 0 ≠ .bad) :
    ∃ s', (nulTransOf B).run s = (s', .returned (match T.stepByte (s.vars 0) 0 with | .st n => n | _ => 0)) ∧
      s'.arr = s.arr ∧ s'.log = s.log := by
  have hsb : T.stepByte (s.vars 0) 0 = T.compStep (T.deflt.size + 2) (s.vars 0) T.nulEc := by
    simp [Tables.stepByte, hnt, Tables.stepClass, hk]
  rw [hsb] at hnb ⊢
  have hT2 := tablesIn_setVar (tablesIn_setVar hT 1 (s.vars 5) (by omega)) 2 T.nulEc (by omega)
  obtain ⟨a, b, hsa⟩ := saveAcc_run hT2 ha
  obtain ⟨s3, hst, hT3, -, ha3, hl3⟩ := step_code T B hB _
    (tablesIn_setVar (tablesIn_setVar hT2 7 a (by omega)) 8 b (by omega)) hnb
  simp [setVar_vars] at hst
  -- yy_cp = yy_c_buf_p; yy_c = YY_NUL_EC; …; return yy_is_jam ? 0 : yy_current_state
  refine Runs.seq (.assign rfl (.seq (.assign (congrArg some hT.nulEc) (.seq (.of_eq hsa
    (.seq_assoc (.seq (.of_eq hst (.seq (.assign rfl (.ret ?_ ⟨ha3, hl3⟩)))))))))))
  cases hcs : T.compStep (T.deflt.size + 2) (s.vars 0) T.nulEc with
  | bad => exact absurd hcs hnb
  | jam => simp [Ex.eval, setVar_vars, valOf, hT3.jam, b2i]
  | st n => simp [Ex.eval, setVar_vars, valOf, hT3.jam, b2i, compStep_st_ne_jam hcs]

/-- the decoder's transition on a buffer cell holding the byte value `b` -/
def cellStep (T : Tables) (cur b : Int) : DState :=
  if b = 0 then T.compStep (T.deflt.size + 2) cur T.nulEc
  else match (if T.useEcs then rd T.ec b else some b) with
    | none => .bad
    | some c => T.compStep (T.deflt.size + 2) cur c

theorem cellStep_eq_stepByte (T : Tables) (hk : T.kind = .compressed) (hnt : T.hasNulTrans = false)
    (cur : Int) (b : UInt8) : cellStep T cur (b.toNat : Int) = T.stepByte cur b := by
  have hb : ((b.toNat : Int) = 0) = (b = 0) := by simp [← UInt8.toNat_inj]
  simp only [cellStep, Tables.stepByte, hb, hnt, Tables.stepClass, hk, Tables.classOf, Bool.false_eq_true, if_false]
  rfl

/-- the states the code goes through on `cells` from `cur`: every one has its `yy_accept` entry and a next state -/
def walk (T : Tables) : Int → List Int → Option Int
  | cur, [] => some cur
  | cur, b :: rest =>
    match rd T.accept cur, cellStep T cur b with
    | some _, .st n => walk T n rest
    | _, _ => none

/-- `cellStep` with the column of a non-NUL byte left open (`cellStep`: the decoder's `classOf`; `C01Step.cellStep`: `yy_ec`) -/
def cellStepOf (T : Tables) (cls : Int → Option Int) (cur b : Int) : DState :=
  if b = 0 then T.compStep (T.deflt.size + 2) cur T.nulEc
  else match cls b with
    | none => .bad
    | some c => T.compStep (T.deflt.size + 2) cur c

def walkOf (T : Tables) (cls : Int → Option Int) : Int → List Int → Option Int
  | cur, [] => some cur
  | cur, b :: rest =>
    match rd T.accept cur, cellStepOf T cls cur b with
    | some _, .st n => walkOf T cls n rest
    | _, _ => none

theorem cellStepOf_st {T : Tables} {cls : Int → Option Int} {cur b n : Int} (h : cellStepOf T cls cur b = .st n) :
    ∃ c, (if b = 0 then some T.nulEc else cls b) = some c ∧ T.compStep (T.deflt.size + 2) cur c = .st n := by
  unfold cellStepOf at h
  split at h
  · next h0 => exact ⟨_, if_pos h0, h⟩
  · next h0 =>
    rw [if_neg h0]
    split at h
    · cases h
    · next c hc => exact ⟨c, hc, h⟩

theorem walkOf_cons {T : Tables} {cls : Int → Option Int} {cur b n : Int} {rest : List Int}
    (h : walkOf T cls cur (b :: rest) = some n) :
    ∃ n1, rd T.accept cur ≠ none ∧ cellStepOf T cls cur b = .st n1 ∧ walkOf T cls n1 rest = some n := by
  simp only [walkOf] at h
  split at h
  · next _ n1 ha hc => exact ⟨n1, by simp [ha], hc, h⟩
  · cases h

theorem walk_eq (T : Tables) (cells : List Int) : ∀ cur,
    walk T cur cells = walkOf T (fun b => if T.useEcs then rd T.ec b else some b) cur cells := by
  induction cells with
  | nil => exact fun _ => rfl
  | cons b rest ih =>
    intro cur
    simp only [walk, walkOf, ih]
    rfl

def forBodyOf (B : St) (CE : Ex) : St :=
  .seq (.seq (.assign 2 CE) (.seq saveAcc (.seq (loopOf B) stepNxt))) (.assign 1 (.add (.var 1) (.lit 1)))
def prevStateOf (B : St) (CE : Ex) : St :=
  .seq (.assign 0 (.var 6)) (.seq (.seq (.assign 1 (.add (.var 3) (.var 4))) (.while_ forCond (forBodyOf B CE))) (.ret (.var 0)))

/-- the expression that maps the cell under `yy_cp` to its column does what the decoder does: `yy_ec` or the byte itself for a
    non-NUL byte, the NUL class for a NUL -/
structure ClassOK (T : Tables) (CE : Ex) : Prop where
  nz : ∀ (s : State) (b : Int), TablesIn s T → (Ex.idx (.var 1)).eval s = some b → b ≠ 0 →
    CE.eval s = (if T.useEcs then rd T.ec b else some b)
  z : ∀ (s : State), TablesIn s T → (Ex.idx (.var 1)).eval s = some 0 → CE.eval s = some T.nulEc

theorem ClassOK.eval {T : Tables} {CE : Ex} (hC : ClassOK T CE) {s : State} {b : Int} (hT : TablesIn s T)
    (hidx : (Ex.idx (.var 1)).eval s = some b) :
    CE.eval s = if b = 0 then some T.nulEc else if T.useEcs then rd T.ec b else some b := by
  split
  · next h => exact hC.z s hT (h ▸ hidx)
  · next h => exact hC.nz s b hT hidx h

section
variable {T : Tables} {B : St} {CE : Ex} {cls : Int → Option Int} (hB : BodyOK T B)
  (hCE : ∀ {s : State} {b : Int}, TablesIn s T → (Ex.idx (.var 1)).eval s = some b →
    CE.eval s = if b = 0 then some T.nulEc else cls b)
include hB hCE

theorem forBody_run (s : State) (hT : TablesIn s T) (cp : Nat) (b n : Int)
    (h1 : s.vars 1 = cp) (hb : s.arr[cp]? = some b) (ha : rd T.accept (s.vars 0) ≠ none)
    (hst : cellStepOf T cls (s.vars 0) b = .st n) :
    ∃ s', (forBodyOf B CE).run s = (s', .normal) ∧ TablesIn s' T ∧ s'.vars 0 = n ∧ s'.vars 1 = (cp : Int) + 1 ∧
      s'.vars 5 = s.vars 5 ∧ s'.arr = s.arr ∧ s'.log = s.log := by
  have hidx : (Ex.idx (.var 1)).eval s = some b := eval_idx_get rfl h1 hb
  obtain ⟨c0, hc0, hcs⟩ := cellStepOf_st hst
  have hcl : CE.eval s = some c0 := (hCE hT hidx).trans hc0
  have hT1 := tablesIn_setVar hT 2 c0 (by omega)
  obtain ⟨a, a', hsa⟩ := saveAcc_run hT1 ha
  obtain ⟨s3, hstp, hT3, hfr3, ha3, hl3⟩ := step_code T B hB _
    (tablesIn_setVar (tablesIn_setVar hT1 7 a (by omega)) 8 a' (by omega)) (by simp [setVar_vars, hcs])
  simp [setVar_vars, hcs, valOf] at hstp
  have h1' : (setVar s3 0 n).vars 1 = cp := by
    rw [setVar_ne _ _ (by decide), hfr3 1 (by decide) (by decide)]; simpa [setVar_vars] using h1
  refine Runs.seq (.seq (.assign hcl (.seq (.of_eq hsa (.of_eq hstp
    (.assign (congrArg (fun x : Int => some (x + 1)) h1') ?_))))))
  refine ⟨tablesIn_setVar (tablesIn_setVar hT3 0 n (by omega)) 1 _ (by omega), rfl, rfl, ?_, ha3, hl3⟩
  rw [setVar_ne _ _ (by decide), setVar_ne _ _ (by decide), hfr3 5 (by decide) (by decide)]; rfl

theorem for_loop_of : ∀ (cells : List Int) (s : State) (cp e fuel : Nat) (n : Int),
    TablesIn s T → s.vars 1 = cp → s.vars 5 = e → cp + cells.length = e →
    (s.arr.drop cp).take cells.length = cells → walkOf T cls (s.vars 0) cells = some n → cells.length + 1 ≤ fuel →
    ∃ s', loop (fun x => forCond.eval x) (fun x => (forBodyOf B CE).run x) fuel s = (s', .normal) ∧ s'.vars 0 = n ∧
      s'.arr = s.arr ∧ s'.log = s.log := by
  intro cells
  induction cells with
  | nil =>
    intro s cp e fuel n _ h1 h5 he _ hw hf
    refine ⟨s, loop_done (by omega) ?_, Option.some.inj hw, rfl, rfl⟩
    rw [forCond, eval_lt_some rfl rfl, h1, h5, ← he]; simp [b2i]
  | cons b rest ih =>
    intro s cp e fuel n hT h1 h5 he hcells hw hf
    rw [List.length_cons] at he hcells hf
    have hc : forCond.eval s = some (b2i ((cp : Int) < (e : Int))) := by
      rw [forCond, eval_lt_some rfl rfl, h1, h5]
    obtain ⟨hb, hrest⟩ := take_drop_cons hcells
    obtain ⟨n1, hacc, hcs, hw'⟩ := walkOf_cons hw
    obtain ⟨s1, hrun, hT1, e0, e1, e5, ha, hl⟩ := forBody_run hB hCE s hT cp b n1 h1 hb hacc hcs
    obtain ⟨s', hl', hn', ha', hlg'⟩ := ih s1 (cp + 1) e (fuel - 1) n hT1 e1 (e5.trans h5) (by omega) (ha ▸ hrest)
      (e0 ▸ hw') (by omega)
    refine ⟨s', ?_, hn', ha'.trans ha, hlg'.trans hl⟩
    rw [loop_step (by omega) hc (b2i_decide_ne_zero.mpr (Int.ofNat_lt.mpr (by omega))) hrun]; exact hl'

theorem prevState_spec_of (s : State) (hT : TablesIn s T) (t0 len : Nat) (n : Int)
    (ht : s.vars 3 + s.vars 4 = t0) (he : s.vars 5 = ((t0 + len : Nat) : Int)) (hin : t0 + len ≤ s.arr.length)
    (hw : walkOf T cls (s.vars 6) ((s.arr.drop t0).take len) = some n) :
    ∃ s', (prevStateOf B CE).run s = (s', .returned n) ∧ s'.arr = s.arr ∧ s'.log = s.log := by
  have hlen : ((s.arr.drop t0).take len).length = len := by simp; omega
  obtain ⟨s', hl, hn, ha, hlg⟩ := for_loop_of hB hCE ((s.arr.drop t0).take len)
    (setVar (setVar s 0 (s.vars 6)) 1 t0) t0 (t0 + len) (s.arr.length + 3) n
    (tablesIn_setVar (tablesIn_setVar hT 0 _ (by omega)) 1 _ (by omega)) rfl he (by rw [hlen])
    (by rw [hlen]; rfl) hw (by rw [hlen]; omega)
  refine Runs.seq (.assign rfl (.seq (.seq (.assign (congrArg some ht) (.while_ hl ?_)))))
  exact .ret (congrArg some hn) ⟨ha, hlg⟩

end

theorem for_loop (T : Tables) (B : St) (CE : Ex) (hB : BodyOK T B) (hC : ClassOK T CE) :
    ∀ (cells : List Int) (s : State) (cp : Nat) (fuel : Nat) (n : Int),
    TablesIn s T → s.vars 1 = cp → s.vars 5 = ((cp + cells.length : Nat) : Int) →
    (s.arr.drop cp).take cells.length = cells → cp + cells.length ≤ s.arr.length →
    walk T (s.vars 0) cells = some n → cells.length + 1 ≤ fuel →
    ∃ s', loop (fun x => forCond.eval x) (fun x => (forBodyOf B CE).run x) fuel s = (s', .normal) ∧ s'.vars 0 = n ∧
      s'.arr = s.arr ∧ s'.log = s.log := by
  intro cells s cp fuel n hT h1 h5 hcells _ hw
  exact for_loop_of hB hC.eval cells s cp _ fuel n hT h1 h5 rfl hcells (walk_eq T cells _ ▸ hw)

theorem prevState_spec (T : Tables) (B : St) (CE : Ex) (hB : BodyOK T B) (hC : ClassOK T CE) (s : State) (hT : TablesIn s T)
    (t0 len : Nat) (n : Int) (ht : s.vars 3 + s.vars 4 = t0) (he : s.vars 5 = ((t0 + len : Nat) : Int)) (hin : t0 + len ≤ s.arr.length)
    (hw : walk T (s.vars 6) ((s.arr.drop t0).take len) = some n) :
    ∃ s', (prevStateOf B CE).run s = (s', .returned n) ∧ s'.arr = s.arr ∧ s'.log = s.log :=
  prevState_spec_of hB hC.eval s hT t0 len n ht he hin (walk_eq T _ _ ▸ hw)

/-- `yy_current_state = yy_def[yy_current_state]`: the whole loop body without `yy_meta`, the first half of `stepBody` -/
def bodyNM : St := .assign 0 (.tab 4 (.var 0))

theorem bodyNM_run {T : Tables} {s : State} {d : Int} (hT : TablesIn s T) (hd : rd T.deflt (s.vars 0) = some d) :
    bodyNM.run s = (setVar s 0 d, .normal) :=
  run_assign_some ((tab_eval hT.deflt (.var 0) (s.vars 0) rfl).trans hd)

theorem bodyNM_ok (T : Tables) (hm : T.useMecs = false) : BodyOK T bodyNM :=
  ⟨fun h => absurd (hm ▸ h) (by decide), fun _ _ hT hd _ => bodyNM_run hT hd⟩

theorem bodyM_ok (T : Tables) (hm : T.useMecs = true) : BodyOK T stepBody := by
  have hdef {s : State} {d : Int} (hT : TablesIn s T) (hd : rd T.deflt (s.vars 0) = some d) : stepBody.run s =
      (if b2i (T.jamState + 1 ≤ d) != 0 then (St.assign 2 (.tab 6 (.var 2))).run (setVar s 0 d) else (setVar s 0 d, .normal)) :=
    (run_seq_normal (bodyNM_run hT hd)).trans (run_ite_some (congrArg (fun j : Int => some (b2i (j + 1 ≤ d))) hT.jam))
  refine ⟨fun _ s d c' hT hd hge hme => ?_, fun s d hT hd hno => ?_⟩
  · rw [hdef hT hd, if_pos (by simpa using hge)]
    exact run_assign_some ((tab_eval (tablesIn_setVar hT 0 d (by omega)).metaEc (.var 2) (s.vars 2) rfl).trans hme)
  · rw [hdef hT hd, if_neg (by simpa using fun h => hno ⟨hm, h⟩)]

def classE : Ex := .cond (.idx (.var 1)) (.tab 0 (.idx (.var 1))) (.var 10)
def classNE : Ex := .cond (.idx (.var 1)) (.idx (.var 1)) (.var 10)

theorem cellCond_eval {T : Tables} {s : State} {b : Int} {X : Ex} (hT : TablesIn s T)
    (hidx : (Ex.idx (.var 1)).eval s = some b) :
    (Ex.cond (.idx (.var 1)) X (.var 10)).eval s = if b = 0 then some T.nulEc else X.eval s := by
  rw [eval_cond_some hidx, ← hT.nulEc]
  by_cases hz : b = 0 <;> simp [hz, eval_var]

theorem classE_eval {T : Tables} {s : State} {b : Int} (hT : TablesIn s T) (hidx : (Ex.idx (.var 1)).eval s = some b) :
    classE.eval s = if b = 0 then some T.nulEc else rd T.ec b := by
  rw [classE, cellCond_eval hT hidx, tab_eval hT.ec _ _ hidx]

theorem classE_ok (T : Tables) (he : T.useEcs = true) : ClassOK T classE :=
  ⟨fun s b hT hidx hz => by rw [classE_eval hT hidx, if_neg hz, he, if_pos rfl],
   fun s hT hidx => by rw [classE_eval hT hidx, if_pos rfl]⟩

theorem classNE_ok (T : Tables) (he : T.useEcs = false) : ClassOK T classNE :=
  ⟨fun s b hT hidx hz => by rw [classNE, cellCond_eval hT hidx, if_neg hz, hidx, he]; rfl,
   fun s hT hidx => by rw [classNE, cellCond_eval hT hidx, if_pos rfl]⟩

theorem shape_Cem : Gen.PrevState.prevState = prevStateOf stepBody classE ∧ Gen.PrevState.nulTrans = nulTransOf stepBody := ⟨rfl, rfl⟩
theorem shape_Ce : Gen.PrevStateCe.prevState = prevStateOf bodyNM classE ∧ Gen.PrevStateCe.nulTrans = nulTransOf bodyNM := ⟨rfl, rfl⟩
theorem shape_Cm : Gen.PrevStateCm.prevState = prevStateOf stepBody classNE ∧ Gen.PrevStateCm.nulTrans = nulTransOf stepBody := ⟨rfl, rfl⟩
theorem shape_C : Gen.PrevStateC.prevState = prevStateOf bodyNM classNE ∧ Gen.PrevStateC.nulTrans = nulTransOf bodyNM := ⟨rfl, rfl⟩

/-- **every compressed table variant**: the translated yy_get_previous_state() of the variant that matches the tables' flags
    returns the state the decoder's steps lead to -/
theorem prevState_all (T : Tables) (s : State) (hT : TablesIn s T) (t0 len : Nat) (n : Int)
    (ht : s.vars 3 + s.vars 4 = t0) (he : s.vars 5 = ((t0 + len : Nat) : Int)) (hin : t0 + len ≤ s.arr.length)
    (hw : walk T (s.vars 6) ((s.arr.drop t0).take len) = some n) :
    let prog := match T.useEcs, T.useMecs with
      | true, true => Gen.PrevState.prevState
      | true, false => Gen.PrevStateCe.prevState
      | false, true => Gen.PrevStateCm.prevState
      | false, false => Gen.PrevStateC.prevState
    ∃ s', prog.run s = (s', .returned n) ∧ s'.arr = s.arr ∧ s'.log = s.log := by
  cases hE : T.useEcs <;> cases hM : T.useMecs <;> simp only
  · exact shape_C.1 ▸ prevState_spec T _ _ (bodyNM_ok T hM) (classNE_ok T hE) s hT t0 len n ht he hin hw
  · exact shape_Cm.1 ▸ prevState_spec T _ _ (bodyM_ok T hM) (classNE_ok T hE) s hT t0 len n ht he hin hw
  · exact shape_Ce.1 ▸ prevState_spec T _ _ (bodyNM_ok T hM) (classE_ok T hE) s hT t0 len n ht he hin hw
  · exact shape_Cem.1 ▸ prevState_spec T _ _ (bodyM_ok T hM) (classE_ok T hE) s hT t0 len n ht he hin hw

/-- and the translated yy_try_NUL_trans() of that variant returns the decoder's transition on a NUL -/
theorem nulTrans_all (T : Tables) (hk : T.kind = .compressed) (hnt : T.hasNulTrans = false) (s : State) (hT : TablesIn s T)
    (ha : rd T.accept (s.vars 0) ≠ none) (hnb : T.stepByte (s.vars 0) 0 ≠ .bad) :
    let prog := match T.useEcs, T.useMecs with
      | true, true => Gen.PrevState.nulTrans
      | true, false => Gen.PrevStateCe.nulTrans
      | false, true => Gen.PrevStateCm.nulTrans
      | false, false => Gen.PrevStateC.nulTrans
    ∃ s', prog.run s = (s', .returned (match T.stepByte (s.vars 0) 0 with | .st n => n | _ => 0)) ∧ s'.arr = s.arr ∧ s'.log = s.log := by
  cases hE : T.useEcs <;> cases hM : T.useMecs <;> simp only
  · exact shape_C.2 ▸ nulTrans_spec T _ (bodyNM_ok T hM) hk hnt s hT ha hnb
  · exact shape_Cm.2 ▸ nulTrans_spec T _ (bodyM_ok T hM) hk hnt s hT ha hnb
  · exact shape_Ce.2 ▸ nulTrans_spec T _ (bodyNM_ok T hM) hk hnt s hT ha hnb
  · exact shape_Cem.2 ▸ nulTrans_spec T _ (bodyM_ok T hM) hk hnt s hT ha hnb

end FlexVerif.C01StepGen
