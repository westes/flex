/-
  Props/C18Facts.lean — facts about the generator re-extracted from /repo on every run
  (Gen/Calls.lean) and decided by the kernel.
-/
import FlexVerif.Gen.Calls
namespace FlexVerif

/-- library functions whose result differs from run to run -/
def nondeterministicSources : List String :=
  ["time", "clock", "clock_gettime", "gettimeofday", "rand", "random", "srand", "srandom", "rand_r",
   "drand48", "lrand48", "mrand48", "getpid", "getppid", "mktemp", "tmpnam", "tempnam", "getrandom",
   "arc4random", "localtime", "gmtime", "ctime", "asctime", "strftime", "getuid", "gethostname", "uname"]

/-- **flex calls no library function whose result varies between runs** -/
theorem no_nondeterministic_source :
    (Gen.importedSymbols.all fun s => !nondeterministicSources.contains s) = true := by decide +kernel

/-- **every qsort call in the generator uses one of the two comparators covered by
    `intcmp_sorted_unique` / `cclcmp_sorted_unique`** -/
theorem qsort_comparators_known :
    (Gen.qsortComparators.all fun s => ["intcmp", "cclcmp"].contains s) = true := by decide

end FlexVerif
