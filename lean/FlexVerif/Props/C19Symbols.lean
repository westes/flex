/-
  Props/C19Symbols.lean — C19, "an accepted option reaches the skeleton": theorems about the
  program `Gen.Options.defineSymbols`, the translation of readin() of src/main.c (which m4 symbols
  flex defines, under which condition on its option variables), and about `%option` word →
  check_options() → readin() end to end.  The right-hand sides below are the specification — what
  the manual says each option controls, spelled with the variable scan.l sets for it; the left-hand
  sides are the symbols the skeletons test.  A definition moved under the wrong variable, a dropped
  `else`, a symbol spelled differently on the two sides: each breaks a theorem here, for every
  setting of all the other options.
-/
import FlexVerif.Props.C19Opts
namespace FlexVerif.C19Opts
open FlexVerif.Opt FlexVerif.Gen.Options

abbrev dprog := defineSymbols

def iffC (a b : Cond) : Cond := .or (.and a b) (.and (.not a) (.not b))

/-- the m4 symbols (numbered from `symBase`) -/
def allSyms : Fld → Bool := fun f => decide (symBase ≤ f)
def others (t : Fld) : Fld → Bool := fun f => decide (symBase ≤ f) && f != t
def others2 (t u : Fld) : Fld → Bool := fun f => decide (symBase ≤ f) && f != t && f != u

theorem others_sub (t : Fld) : ∀ f, others t f = true → allSyms f = true := by
  intro f h; simp only [others, Bool.and_eq_true] at h; exact h.1
theorem others2_sub (t u : Fld) : ∀ f, others2 t u f = true → allSyms f = true := by
  intro f h; simp only [others2, Bool.and_eq_true] at h; exact h.1.1

/-- nothing in check_options() or readin() *reads* an m4 symbol -/
theorem readin_reads_no_symbol : dprog.condsAvoid allSyms = true := by decide +kernel
theorem check_options_reads_no_symbol : checkOptions.condsAvoid allSyms = true := by decide +kernel

/-- after readin(): refused on the way, or `Q` — decided on the program with the assignments to all *other* symbols left
    out (`Stmt.run_drop`: nobody reads a symbol, so that changes nothing else) -/
theorem defs_after (p : Fld → Bool) (hp : ∀ f, p f = true → allSyms f = true) (Q : Cond)
    (h : dprog.holdsAfter domains p .tt Q = true) :
    ∀ st, Ok st → (dprog.run st).err.isSome = true ∨ Q.eval (dprog.run st).st = true :=
  fun st hst => Stmt.holdsAfter_sound (Stmt.condsAvoid_mono hp _ readin_reads_no_symbol) h st hst rfl

/-- `M4_…_X` and `M4_…_NO_X`: exactly one of them is defined -/
theorem complementary_pairs : ∀ pr ∈ complementaryPairs, ∀ st, Ok st →
    (dprog.run st).err.isSome = true ∨
      (Cond.not (iffC (.truthy pr.1) (.truthy pr.2))).eval (dprog.run st).st = true := by
  have h : complementaryPairs.all (fun pr =>
      dprog.holdsAfter domains (others2 pr.1 pr.2) .tt (.not (iffC (.truthy pr.1) (.truthy pr.2)))) = true := by
    decide +kernel
  intro pr hpr
  exact defs_after _ (others2_sub _ _) _ (List.all_eq_true.mp h pr hpr)

/-- exactly one of the four find-action modes -/
def oneFindAction : Cond :=
  let a := Cond.truthy F.sym_M4_MODE_FULLSPD
  let b := Cond.truthy F.sym_M4_MODE_FIND_ACTION_FULLTBL
  let c := Cond.truthy F.sym_M4_MODE_FIND_ACTION_REJECT
  let d := Cond.truthy F.sym_M4_MODE_FIND_ACTION_COMPRESSED
  .or (.and a (.and (.not b) (.and (.not c) (.not d))))
  (.or (.and (.not a) (.and b (.and (.not c) (.not d))))
  (.or (.and (.not a) (.and (.not b) (.and c (.not d))))
       (.and (.not a) (.and (.not b) (.and (.not c) d)))))

def notFindAction : Fld → Bool := fun f =>
  decide (symBase ≤ f) && f != F.sym_M4_MODE_FULLSPD && f != F.sym_M4_MODE_FIND_ACTION_FULLTBL &&
    f != F.sym_M4_MODE_FIND_ACTION_REJECT && f != F.sym_M4_MODE_FIND_ACTION_COMPRESSED

theorem one_find_action_mode : ∀ st, Ok st →
    (dprog.run st).err.isSome = true ∨ oneFindAction.eval (dprog.run st).st = true :=
  defs_after notFindAction (by intro f h; simp only [notFindAction, Bool.and_eq_true] at h; exact h.1.1.1.1) _
    (by decide +kernel)

def wiredOk (rows : List (Fld × Cond)) : Bool :=
  rows.all fun r => dprog.holdsAfter domains (others r.1) .tt (iffC (.truthy r.1) r.2)

/-- for every row, every setting of all option variables: flex stops with an error before the
    skeleton is read, or the symbol is defined exactly when the condition holds (of the variables
    as they are at that point) -/
theorem wired_sound (rows : List (Fld × Cond)) (h : wiredOk rows = true) : ∀ r ∈ rows, ∀ st, Ok st →
    (dprog.run st).err.isSome = true ∨ (iffC (.truthy r.1) r.2).eval (dprog.run st).st = true := by
  intro r hr
  exact defs_after _ (others_sub _) _ (List.all_eq_true.mp h r hr)

/-- an `%option` word's effect (`O.o_<name>_on` / `_off`, scan.l's action), then check_options(), then readin() -/
def pipeline (w : Stmt) : Stmt := .seq w (.seq checkOptions defineSymbols)

def reachQ (r : Stmt × Fld × Bool × Cond) : Cond :=
  if r.2.2.1 then .truthy r.2.1 else .not (.truthy r.2.1)

/-- one row `(word, symbol, defined?, unless)`: the override condition `unless` is about the state *before* the word, so
    it enters the decision as (the negation of) the hypothesis -/
def reachOk (r : Stmt × Fld × Bool × Cond) : Bool :=
  r.1.condsAvoid allSyms && (pipeline r.1).holdsAfter domains (others r.2.1) (.not r.2.2.2) (reachQ r)

/-- `%option w` given last: refused, or overridden as the manual says (`unless`), or the symbol is
    (not) defined -/
theorem reach_sound (rows : List (Stmt × Fld × Bool × Cond)) (h : rows.all reachOk = true) :
    ∀ r ∈ rows, ∀ st, Ok st →
    ((pipeline r.1).run st).err.isSome = true ∨ r.2.2.2.eval st = true ∨
      (reachQ r).eval ((pipeline r.1).run st).st = true := by
  intro r hr st hst
  have hr' := List.all_eq_true.mp h r hr
  simp only [reachOk, Bool.and_eq_true] at hr'
  have hc : (pipeline r.1).condsAvoid (others r.2.1) = true := by
    refine Stmt.condsAvoid_mono (others_sub _) _ ?_
    simp only [pipeline, Stmt.condsAvoid, Bool.and_eq_true]
    exact ⟨hr'.1, check_options_reads_no_symbol, readin_reads_no_symbol⟩
  cases hu : r.2.2.2.eval st with
  | true => exact Or.inr (Or.inl rfl)
  | false => exact (Stmt.holdsAfter_sound hc hr'.2 st hst (by simp [Cond.eval, hu])).imp_right Or.inr

end FlexVerif.C19Opts
