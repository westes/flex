/-
  Props/C01StepC99.lean — C01: `yy_get_previous_state()` and `yy_try_NUL_trans()` of the **c99 back end**
  (`Gen/PrevStateC99.lean`, translated from a scanner generated with `%option emit="c99"`, `-Cem`; `yyscanner->`
  dropped, `yytext_r` for `yytext_ptr`, `yy_more_len` for YY_MORE_ADJ).  They are the default skeleton's programs:
  the theorems of `Props/C01Step.lean` hold of them.
-/
import FlexVerif.Gen.PrevStateC99
import FlexVerif.Props.C01Step
namespace FlexVerif.C01StepC99
open FlexVerif.Imp FlexVerif.C01Step

theorem prevState_same : Gen.PrevStateC99.prevState = Gen.PrevState.prevState := rfl
theorem nulTrans_same : Gen.PrevStateC99.nulTrans = Gen.PrevState.nulTrans := rfl

theorem prevState_spec_c99 (T : Tables) (hm : T.useMecs = true) (s : State) (hT : TablesIn s T) (t0 len : Nat) (n : Int)
    (ht : s.vars 3 + s.vars 4 = t0) (he : s.vars 5 = ((t0 + len : Nat) : Int)) (hin : t0 + len ≤ s.arr.length)
    (hw : walk T (s.vars 6) ((s.arr.drop t0).take len) = some n) :
    ∃ s', Gen.PrevStateC99.prevState.run s = (s', .returned n) ∧ s'.arr = s.arr ∧ s'.log = s.log :=
  prevState_same ▸ prevState_spec T hm s hT t0 len n ht he hin hw

theorem nulTrans_spec_c99 (T : Tables) (hk : T.kind = .compressed) (hm : T.useMecs = true) (hnt : T.hasNulTrans = false)
    (s : State) (hT : TablesIn s T) (ha : rd T.accept (s.vars 0) ≠ none) (hnb : T.stepByte (s.vars 0) 0 ≠ .bad) :
    ∃ s', Gen.PrevStateC99.nulTrans.run s = (s', .returned (match T.stepByte (s.vars 0) 0 with | .st n => n | _ => 0)) ∧
      s'.arr = s.arr ∧ s'.log = s.log :=
  nulTrans_same ▸ nulTrans_spec T hk hm hnt s hT ha hnb

end FlexVerif.C01StepC99
