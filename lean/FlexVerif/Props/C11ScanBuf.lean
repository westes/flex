/-
  Props/C11ScanBuf.lean — C11, yy_scan_buffer(): "yy_scan_buffer scans in place and returns NULL for a buffer lacking
  the two terminating NULs".  `tools/fv/gen_scanbuf.py` translates the function from a scanner flex has just generated
  (`Gen/ScanBuf.lean`; the array is the caller's memory, `||` keeps its short-circuit evaluation).  Proved for every size
  and every content; with `size < 2` no cell is read.
-/
import FlexVerif.Imp.Lemmas
import FlexVerif.Gen.ScanBuf
namespace FlexVerif.C11ScanBuf
open FlexVerif.Imp FlexVerif.Gen.ScanBuf

theorem setVar_vars (s : State) (x y : Nat) (v : Int) : (setVar s x v).vars y = if y = x then v else s.vars y := rfl
@[simp] theorem setVar_arr (s : State) (x : Nat) (v : Int) : (setVar s x v).arr = s.arr := rfl
@[simp] theorem setVar_log (s : State) (x : Nat) (v : Int) : (setVar s x v).log = s.log := rfl

/-- the memory ends in the two end-of-buffer characters -/
def Terminated (arr : List Int) : Prop :=
  2 ≤ arr.length ∧ arr[arr.length - 2]? = some 0 ∧ arr[arr.length - 1]? = some 0

instance (arr : List Int) : Decidable (Terminated arr) := by unfold Terminated; infer_instance

theorem Terminated.append (l : List Int) : Terminated (l ++ [0, 0]) := by simp [Terminated]

def nz (e : Ex) : Ex := .not (.eq e (.lit 0))
def cell2 : Ex := .not (.eq (.idx (.sub (.var 0) (.lit 2))) (.lit 0))      -- base[size-2] != 0
def cell1 : Ex := .not (.eq (.idx (.sub (.var 0) (.lit 1))) (.lit 0))      -- base[size-1] != 0
def guard : Ex := .cond (.cond (.lt (.var 0) (.lit 2)) (.lit 1) (nz cell2)) (.lit 1) (nz cell1)

section
variable {s : State} {a b : Ex} {p q : Prop} [Decidable p] [Decidable q]

theorem nz_eval {v : Int} (h : a.eval s = some v) : (nz a).eval s = some (b2i (decide (v ≠ 0))) := by
  rw [nz, eval_not_some (eval_eq_some h rfl)]
  by_cases hv : v = 0 <;> simp [hv, b2i]

/-- `a || b` as the translator writes it, for operands that are truth values: `b` is evaluated only where `a` is false -/
theorem or_eval (ha : a.eval s = some (b2i (decide p))) (hb : ¬ p → b.eval s = some (b2i (decide q))) :
    (Ex.cond a (.lit 1) (nz b)).eval s = some (b2i (decide (p ∨ q))) := by
  rw [eval_cond_some ha]
  by_cases hp : p
  · simp [hp, b2i]; rfl
  · rw [if_neg (by simp [hp]), nz_eval (hb hp)]
    by_cases hq : q <;> simp [hp, hq, b2i]

theorem cell_eval {k : Nat} (hsz : s.vars 0 = s.arr.length) (hk : 0 < k) (hle : k ≤ s.arr.length) :
    (Ex.not (.eq (.idx (.sub (.var 0) (.lit k))) (.lit 0))).eval s = some (b2i (decide (s.arr[s.arr.length - k]? ≠ some 0))) := by
  rw [eval_not_some (eval_eq_some (eval_idx_at (n := s.arr.length - k) rfl (by omega) (by omega)) rfl),
    List.getElem?_eq_getElem (by omega)]
  by_cases hv : s.arr[s.arr.length - k] = 0 <;> simp [hv, b2i]
end

/-- the test at the head of the function: 1 exactly when the memory does not end in two NULs -/
theorem guard_eval (s : State) (hsz : s.vars 0 = s.arr.length) :
    guard.eval s = some (if Terminated s.arr then 0 else 1) := by
  have hlt : (Ex.lt (.var 0) (.lit 2)).eval s = some (b2i (decide (s.arr.length < 2))) := by
    rw [eval_lt_some rfl rfl, hsz]
    exact congrArg (some ∘ b2i) (decide_eq_decide.mpr (by omega))
  refine (or_eval (or_eval hlt fun h => cell_eval (k := 2) hsz (by decide) (by omega))
    fun h => cell_eval (k := 1) hsz (by decide) (by omega)).trans (congrArg some ?_)
  -- the disjunction is `¬ Terminated s.arr`
  by_cases ht : Terminated s.arr <;> simp [b2i, ht] <;> simpa [Terminated, and_assoc] using ht

/-- **refused**: NULL, and nothing is touched -/
theorem scanBuffer_refuses (s : State) (hsz : s.vars 0 = s.arr.length) (h : ¬ Terminated s.arr) :
    scanBuffer.run s = (s, .returned 0) :=
  run_seq_stop ((run_ite_some ((guard_eval s hsz).trans (by rw [if_neg h]))).trans rfl) (by simp)

/-- the buffer yy_scan_buffer() sets up over the caller's memory -/
def scanned (s : State) : State :=
  { (setVar (setVar (setVar (setVar (setVar (setVar (setVar (setVar (setVar (setVar (setVar (setVar (setVar s
      1 1) 2 (s.vars 0 - 2)) 4 0) 3 0) 5 0) 6 0) 7 (s.vars 0 - 2)) 8 0) 9 1) 10 1) 11 0) 12 0) 13 cYY_BUFFER_NEW) with
    log := s.log ++ [(0, 1)] }

/-- its fields: `size - 2` characters (`yy_buf_size`, `yy_n_chars`), `yy_ch_buf = yy_buf_pos = base` (offset 0), not ours, no
    file, not interactive, at the beginning of a line, line 1 column 0, never refilled, new; `yy_switch_to_buffer(b)` called -/
theorem scanned_fields (s : State) :
    (scanned s).vars 2 = s.vars 0 - 2 ∧ (scanned s).vars 7 = s.vars 0 - 2 ∧ (scanned s).vars 3 = 0 ∧ (scanned s).vars 4 = 0 ∧
    (scanned s).vars 5 = 0 ∧ (scanned s).vars 6 = 0 ∧ (scanned s).vars 8 = 0 ∧ (scanned s).vars 9 = 1 ∧ (scanned s).vars 10 = 1 ∧
    (scanned s).vars 11 = 0 ∧ (scanned s).vars 12 = 0 ∧ (scanned s).vars 13 = cYY_BUFFER_NEW ∧ (scanned s).arr = s.arr ∧
    (scanned s).log = s.log ++ [(0, 1)] :=
  ⟨rfl, rfl, rfl, rfl, rfl, rfl, rfl, rfl, rfl, rfl, rfl, rfl, rfl, rfl⟩

/-- **accepted**: a buffer over the very memory handed in is made current and returned; the memory is not written -/
theorem scanBuffer_accepts (s : State) (hsz : s.vars 0 = s.arr.length) (h : Terminated s.arr) :
    scanBuffer.run s = (scanned s, .returned 1) :=
  -- after the test nothing depends on the memory or on `size`: the rest of the function runs by unfolding
  (run_seq_normal ((run_ite_some ((guard_eval s hsz).trans (by rw [if_pos h]))).trans rfl)).trans rfl

/-- **C11, yy_scan_buffer()**: NULL iff the memory lacks the two terminating NULs; no access outside the memory -/
theorem scanBuffer_spec (s : State) (hsz : s.vars 0 = s.arr.length) :
    (scanBuffer.run s).2 = .returned (if Terminated s.arr then 1 else 0) ∧ (scanBuffer.run s).1.arr = s.arr := by
  by_cases h : Terminated s.arr
  · rw [scanBuffer_accepts s hsz h]; simp [h, scanned]
  · rw [scanBuffer_refuses s hsz h]; simp [h]

/-! examples: "ab" followed by two NULs is accepted in place; one NUL short, or one byte in all, is refused -/
example : (scanBuffer.run { vars := fun y => if y = 0 then 4 else 7, arr := [97, 98, 0, 0] }).2 = .returned 1 := by decide
example : (scanBuffer.run { vars := fun y => if y = 0 then 3 else 7, arr := [97, 98, 0] }).2 = .returned 0 := by decide
example : (scanBuffer.run { vars := fun y => if y = 0 then 1 else 7, arr := [0] }).2 = .returned 0 := by decide

end FlexVerif.C11ScanBuf
