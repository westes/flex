/-
  Props/C11ScanBytes.lean — C11, yy_scan_bytes(): "yy_scan_string/yy_scan_bytes scan a private copy of exactly the given
  bytes".  Translated from a generated scanner (`Gen/ScanBuf.lean`, namespace `ScanBytes`): the array is the fresh memory
  `buf = yyalloc(len + 2)`, the caller's bytes are a read-only table (so they are only read, and only inside `[0, len)`),
  `yy_scan_buffer(buf, n)` is a logged call whose result is whatever `scan_result` holds.  (yy_scan_string is
  `yy_scan_bytes(s, strlen(s))`.)
-/
import FlexVerif.Imp.Lemmas
import FlexVerif.Gen.ScanBuf
import FlexVerif.Imp.Tables
import FlexVerif.Props.C11ScanBuf

namespace FlexVerif.C11ScanBytes
open FlexVerif.Imp FlexVerif.Gen.ScanBytes
open FlexVerif.C01Step (Holds tab_eval holds_setVar holds_arr)

theorem setVar_vars (s : State) (x y : Nat) (v : Int) : (setVar s x v).vars y = if y = x then v else s.vars y := rfl
@[simp] theorem setVar_arr (s : State) (x : Nat) (v : Int) : (setVar s x v).arr = s.arr := rfl
@[simp] theorem setVar_log (s : State) (x : Nat) (v : Int) : (setVar s x v).log = s.log := rfl

def cpCond : Ex := .lt (.var 2) (.var 0)
def cpBody : St := .seq (.store (.var 2) (.tab 0 (.var 2))) (.assign 2 (.add (.var 2) (.lit 1)))

theorem cpBody_run {bytes : Array Int} {s : State} {i : Nat} (hH : Holds s 0 bytes) (h2 : s.vars 2 = i) (hib : i < bytes.size)
    (hia : i < s.arr.length) :
    cpBody.run s = (setVar { s with arr := s.arr.set i bytes[i] } 2 ((i : Int) + 1), .normal) := by
  have htab : (Ex.tab 0 (.var 2)).eval s = some bytes[i] := by
    rw [tab_eval hH _ _ rfl, h2, rd, if_neg (by omega), Int.toNat_natCast, Array.getElem?_eq_getElem hib]
  exact (run_seq_normal (run_store_some rfl htab h2 hia)).trans (run_assign_some (congrArg (some <| · + 1) h2))

/-- the copy loop: after it the first `i + k` cells are the first `i + k` bytes handed in; nothing else is touched -/
theorem copy_loop (bytes : Array Int) : ∀ (k : Nat) (s : State) (i fuel : Nat), Holds s 0 bytes → s.vars 2 = i →
    s.vars 0 = ((i + k : Nat) : Int) → i + k ≤ bytes.size → i + k ≤ s.arr.length → s.arr.take i = bytes.toList.take i → k + 1 ≤ fuel →
    ∃ s', loop (fun x => cpCond.eval x) (fun x => cpBody.run x) fuel s = (s', .normal) ∧
      s'.arr.take (i + k) = bytes.toList.take (i + k) ∧ s'.arr.length = s.arr.length ∧ s'.arr.drop (i + k) = s.arr.drop (i + k) ∧
      (∀ y, y ≠ 2 → s'.vars y = s.vars y) ∧ s'.log = s.log := by
  intro k
  induction k with
  | zero =>
    intro s i fuel _ h2 h0 _ _ htake hf
    exact ⟨s, loop_done (by omega) (by simp [cpCond, Ex.eval, h2, h0, b2i]), htake, rfl, rfl, fun _ _ => rfl, rfl⟩
  | succ k ih =>
    intro s i fuel hH h2 h0 hsz hlen htake hf
    have hc : cpCond.eval s = some (b2i ((i : Int) < (i + (k + 1) : Nat))) := by simp [cpCond, Ex.eval, h2, h0]
    obtain ⟨s', hl, ht, hlen', hdrop, hfr, hlg⟩ := ih (setVar { s with arr := s.arr.set i bytes[i] } 2 ((i : Int) + 1)) (i + 1) (fuel - 1)
      (holds_setVar (holds_arr hH _) 2 _ (by omega)) (by simp) (by simp [setVar_vars, h0]; omega) (by omega)
      (by simp; omega)
      (by simp [List.take_add_one, List.take_set_of_le, htake, show i < bytes.size by omega, show i < s.arr.length by omega])
      (by omega)
    rw [Nat.add_right_comm, Nat.add_assoc] at ht hdrop
    refine ⟨s', ?_, ht, by simpa using hlen', ?_, fun y hy => by rw [hfr y hy, Imp.setVar_ne _ _ hy], hlg⟩
    · rw [loop_step (by omega) hc (b2i_decide_ne_zero.mpr (by omega)) (cpBody_run hH h2 (by omega) (by omega)), hl]
    · rw [hdrop, setVar_arr, List.drop_set_of_lt (by omega)]

theorem _root_.FlexVerif.Imp.Runs.copy {bytes : Array Int} {s : State} {L : Nat} {Q : State → Prop} (hH : Holds s 0 bytes) (h2 : s.vars 2 = 0)
    (h0 : s.vars 0 = L) (hL : L ≤ bytes.size) (hlen : L ≤ s.arr.length)
    (hQ : ∀ A v, A.take L = bytes.toList.take L → A.length = s.arr.length → Q (setVar { s with arr := A } 2 v)) :
    Runs (.while_ cpCond cpBody) s .normal Q := by
  have h := copy_loop bytes L s 0 (s.arr.length + 3) hH h2
  rw [Nat.zero_add] at h
  obtain ⟨s', hl, ht, hlen', -, hfr, hlg⟩ := h h0 hL hlen rfl (by omega)
  refine .while_ hl ?_
  -- only `i` and the memory have changed
  have hs : s' = setVar { s with arr := s'.arr } 2 (s'.vars 2) := by
    refine State.ext (fun y => ?_) rfl hlg
    by_cases hy : y = 2
    · rw [hy, setVar_same]
    · rw [Imp.setVar_ne _ _ hy, hfr y hy]
  rw [hs]
  exact hQ _ _ ht hlen'

theorem two_marks (X B : List Int) (L : Nat) (hB : B.length = L) (hX : X.take L = B) (hlen : X.length = L + 2) :
    (X.set (L + 1) 0).set L 0 = B ++ [0, 0] := by
  rw [List.set_comm _ _ (by omega), ← hX, ← take_set_set X L 0 0 (by omega), List.take_of_length_le (by simp [hlen])]

/-- **C11, yy_scan_bytes()**: the scanner's private memory holds exactly the `len` bytes handed in, then the two end marks;
    that memory (of `len + 2` bytes) is what yy_scan_buffer() is called on; the buffer it returns is marked as the scanner's
    own; NULL from yy_scan_buffer() would be the documented fatal error -/
theorem scanBytes_spec (bytes : Array Int) (s : State) (L : Nat) (hH : Holds s 0 bytes) (h0 : s.vars 0 = L)
    (hL : L ≤ bytes.size) (harr : s.arr = []) :
    ∃ s', s'.arr = bytes.toList.take L ++ [0, 0] ∧ s'.log = s.log ++ [(0, (L : Int) + 2)] ∧
      (s.vars 6 = 0 → scanBytes.run s = (s', .fatal 1)) ∧
      (s.vars 6 ≠ 0 → scanBytes.run s = (s', .returned (s.vars 6)) ∧ s'.vars 5 = 1) := by
  -- one walk, its outcome decided by what yy_scan_buffer() returned (variable 6)
  have h : Runs scanBytes s (if s.vars 6 = 0 then .fatal 1 else .returned (s.vars 6)) fun s' =>
      s'.arr = bytes.toList.take L ++ [0, 0] ∧ s'.log = s.log ++ [(0, (L : Int) + 2)] ∧ (s.vars 6 ≠ 0 → s'.vars 5 = 1) := by
    refine .seq (.assign rfl (.seq (.seq (.alloc (k := L + 2) harr (congrArg (some <| · + 2) h0) (.assign rfl (.seq (.ite_false rfl
      (.skip (.seq (.seq (.assign rfl (.copy ?_ rfl h0 hL (by simp) fun A _ htake hlenA => ?_))))))))))))
    · exact holds_setVar (holds_setVar (holds_arr (holds_setVar hH 1 _ (by omega)) _) 3 _ (by omega)) 2 _ (by omega)
    have lA : A.length = L + 2 := hlenA.trans (List.length_replicate ..)
    refine .seq (.seq (.store (n := L + 1) rfl rfl (congrArg (· + 1) h0) (by simp [lA]) (.store (n := L) rfl
      ((eval_idx_at (n := L + 1) rfl (congrArg (· + 1) h0) (by simp [lA])).trans (congrArg some (List.getElem_set_self _))) h0
      (by simp [lA]) (.seq (.seq (.call rfl (.assign rfl ?_)))))))
    have harrF := two_marks A _ L (by simp; omega) htake lA
    have hlogF : s.log ++ [(0, s.vars 0 + 2)] = s.log ++ [(0, (L : Int) + 2)] := by rw [h0]
    by_cases hz : s.vars 6 = 0
    · rw [if_pos hz]
      exact .seq_stop (.ite_pos rfl hz (.fatal ⟨harrF, hlogF, fun h => absurd hz h⟩)) (by simp)
    · rw [if_neg hz]
      exact .seq (.ite_neg rfl hz (.skip (.seq (.assign rfl (.ret rfl ⟨harrF, hlogF, fun _ => rfl⟩)))))
  obtain ⟨s', hr, ha, hl, h5⟩ := h
  exact ⟨s', ha, hl, fun hz => by rw [hr, if_pos hz], fun hz => ⟨by rw [hr, if_neg hz], h5 hz⟩⟩

/-- what yy_scan_bytes() hands to yy_scan_buffer() is always accepted: it ends in the two NULs -/
theorem copy_terminated (bytes : List Int) (L : Nat) (h : L ≤ bytes.length) : C11ScanBuf.Terminated (bytes.take L ++ [0, 0]) :=
  .append _

end FlexVerif.C11ScanBytes
