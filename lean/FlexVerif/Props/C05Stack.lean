/-
  Props/C05Stack.lean — C05: the start-condition stack functions of a generated scanner
  (`Gen/StartStack.lean`, translated by `tools/fv/gen_startstack.py`) against a list used as a stack.
  `R.start` lets `yy_start` be 0 until yylex has run: a push may come before the first call of yylex.
-/
import FlexVerif.Imp.Lemmas
import FlexVerif.Gen.StartStack

namespace FlexVerif.C05Stack
open FlexVerif.Imp FlexVerif.Gen.StartStack

/-- the specification: the current start condition and a list used as a stack -/
structure AS where
  start : Int := 0
  stack : List Int := []
  inited : Bool := false          -- yylex has been called

/-- the code's state represents the list machine's: `yy_start_stack[0 … yy_start_stack_ptr)` is the stack, bottom first, in an array
    of `yy_start_stack_depth` cells, and `yy_start` is the start condition as the match loop wants it, `1 + 2 * start` (0 until yylex has run) -/
structure R (s : State) (a : AS) : Prop where
  ptr : s.vars vPtr = a.stack.length
  depth : s.vars vDepth = s.arr.length
  fits : a.stack.length ≤ s.arr.length
  elems : s.arr.take a.stack.length = a.stack
  start : s.vars vStart = 1 + 2 * a.start ∨ (a.inited = false ∧ s.vars vStart = 0 ∧ a.start = 0)

theorem start_refines {s : State} {a : AS} (h : R s a) : startEx.eval s = some a.start := by
  show some (Int.tdiv (s.vars vStart - 1) 2) = _
  rcases h.start with h1 | ⟨_, h0, ha⟩
  · rw [h1, Int.add_comm 1, Int.add_sub_cancel, Int.mul_tdiv_cancel_left _ (by decide)]
  · rw [h0, ha]; rfl

@[simp] theorem setVar_arr (s : State) (x : Nat) (v : Int) : (setVar s x v).arr = s.arr := rfl
theorem setVar_vars (s : State) (x y : Nat) (v : Int) : (setVar s x v).vars y = if y = x then v else s.vars y := rfl

theorem R.setArg {s : State} {a : AS} (h : R s a) (x : Int) : R (setVar s vArg x) a :=
  { h with }

/-- `BEGIN(x)`, the last line of `yybegin`, `yy_push_state` and `yy_pop_state` -/
theorem R.begin {s : State} {a : AS} (h : R s a) (x : Int) : R (setVar s vStart (1 + 2 * x)) { a with start := x } :=
  { h with start := .inl rfl }

theorem R.concat {s : State} {a : AS} (h : R s a) {rest : List Int} {t : Int} (hs : a.stack = rest ++ [t]) :
    s.vars 1 = rest.length + 1 ∧ rest.length < s.arr.length ∧ s.arr.take rest.length = rest ∧ s.arr[rest.length]? = some t := by
  have hp := h.ptr
  have hf := h.fits
  have he := h.elems
  rw [hs, List.length_append, List.length_singleton] at hp hf he
  exact ⟨hp, hf, take_concat_iff.mp he⟩

theorem refines {p : St} {s : State} {o : Outcome} {a : AS} (h : Runs p s o (R · a)) :
    (p.run s).2 = o ∧ R (p.run s).1 a :=
  h.pair

theorem begin_refines {s : State} {a : AS} (h : R s a) (x : Int) :
    (begin_.run (setVar s vArg x)).2 = .normal ∧
      R (begin_.run (setVar s vArg x)).1 { a with start := x } :=
  refines (.assign rfl ((h.setArg x).begin x))

theorem lexInit_refines {s : State} {a : AS} (h : R s a) :
    (lexInit.run s).2 = .normal ∧ R (lexInit.run s).1 { a with inited := true } := by
  rcases h.start with h1 | ⟨_, h0, ha⟩
  · -- `yy_start` is odd
    have hz : ¬ s.vars 0 = 0 := by have : s.vars 0 = _ := h1; omega
    exact refines (.ite_neg rfl hz (.skip { h with start := .inl h1 }))
  · exact refines (.ite_pos rfl h0 (.assign rfl { h with start := .inl (by rw [ha]; rfl) }))

/-- `yy_top_state()` of an empty stack is (the code's choice) the current start condition -/
theorem top_refines {s : State} {a : AS} (h : R s a) :
    (top.run s).2 = .returned (a.stack.getLast?.getD a.start) := by
  refine (refines (.ret ((eval_cond_some rfl).trans ?_) h)).1
  rcases List.eq_nil_or_concat a.stack with he | ⟨rest, t, hs⟩
  · rw [show s.vars 1 = _ from h.ptr, he]
    exact start_refines h
  · rw [List.concat_eq_append] at hs
    obtain ⟨hp, _, _, hg⟩ := h.concat hs
    rw [hp, hs, List.getLast?_concat, if_pos (by simp)]
    exact eval_idx_get rfl (by omega) hg

theorem top_state (s : State) : (top.run s).1 = s := by
  simp only [top, St.run]
  split <;> rfl

def underflowMsg : Nat := msgs.findIdx (· == "start-condition stack underflow")

theorem underflowMsg_eq : underflowMsg = 1 := by simp [underflowMsg, msgs, List.findIdx_cons]

theorem pop_empty {s : State} {a : AS} (h : R s a) (he : a.stack = []) :
    (pop.run s).2 = .fatal underflowMsg := by
  have hp : s.vars 1 + -1 < 0 := by rw [show s.vars 1 = _ from h.ptr, he]; decide
  rw [underflowMsg_eq]
  exact (Runs.pair (Q := fun _ => True) (.seq_stop (.seq (.assign rfl (.ite_pos rfl hp (.fatal trivial)))) nofun)).1

theorem pop_refines {s : State} {a : AS} (h : R s a) (rest : List Int) (t : Int) (hs : a.stack = rest ++ [t]) :
    (pop.run s).2 = .normal ∧ R (pop.run s).1 { a with start := t, stack := rest } := by
  obtain ⟨hp, hlt, htk, hg⟩ := h.concat hs
  have hp' : s.vars 1 + -1 = rest.length := by omega
  have h1 : R (setVar s vPtr (s.vars 1 + -1)) { a with stack := rest } :=
    { h with ptr := hp', fits := Nat.le_of_lt hlt, elems := htk }
  exact refines (.seq (.seq (.assign rfl (.ite_neg rfl (show ¬ s.vars 1 + -1 < 0 by omega) (.skip
    (.assign (eval_add_some rfl (eval_mul_some rfl (eval_idx_get rfl hp' hg))) (h1.begin t)))))))

theorem push_runs {s : State} {a : AS} (h : R s a) :
    Runs push s .normal (R · { a with start := s.vars vArg, stack := a.stack ++ [a.start] }) := by
  have hd : s.vars 2 = s.arr.length := h.depth
  have hp : s.vars 1 = a.stack.length := h.ptr
  have hf := h.fits
  refine .seq (.mono (Q := fun s1 => R s1 a ∧ s1.vars vArg = s.vars vArg ∧ a.stack.length < s1.arr.length) ?_ ?_)
  · by_cases hroom : a.stack.length < s.arr.length
    · exact .ite_neg rfl (by omega) (.skip ⟨h, rfl, hroom⟩)
    · -- the array is full (or not there yet): it grows by YY_START_STACK_INCR elements
      refine .ite_pos rfl (by omega) (.seq (.assign rfl (.seq (.assign rfl (.seq (.ite_same rfl (.seq (.growBy (c := 25) ?_
        (.assign rfl (.ite_neg rfl Int.one_ne_zero (.skip
        ⟨{ h with depth := ?_, fits := Nat.le_of_lt ?room, elems := ?_ }, rfl, ?room⟩)))))))))))
      case room => exact Nat.lt_of_le_of_lt hf (by simp)
      · -- `new_size / sizeof(int)`
        exact congrArg some ((Int.mul_tdiv_cancel _ (by decide)).trans (congrArg (· + 25) hd))
      · simp [setVar_vars, vDepth, hd]
      · exact (List.take_append_of_le_length hf).trans h.elems
  · -- the current start condition goes on top
    intro s1 ⟨h1, harg, hroom⟩
    refine .seq (.seq (.store rfl (start_refines h1) h1.ptr hroom (.assign rfl (.assign rfl ?_))))
    refine harg ▸ R.begin (a := { a with stack := a.stack ++ [a.start] }) ⟨?_, ?_, ?_, ?_, ?_⟩ _
    · simpa [vPtr] using h1.ptr
    · simpa [setVar_vars, vDepth] using h1.depth
    · simpa using Nat.succ_le_of_lt hroom
    · rw [List.length_append]
      exact take_concat_iff.mpr ⟨(List.take_set_of_le (Nat.le_refl _)).trans h1.elems, List.getElem?_set_self hroom⟩
    · exact h1.start

theorem push_refines {s : State} {a : AS} (h : R s a) (x : Int) :
    (push.run (setVar s vArg x)).2 = .normal ∧
      R (push.run (setVar s vArg x)).1 { a with start := x, stack := a.stack ++ [a.start] } :=
  refines (push_runs (h.setArg x))

inductive Op
  | push (x : Int)
  | pop
  | top
  | begin_ (x : Int)
  | lex                 -- a call of yylex (as far as the start condition is concerned: its first lines)
deriving Repr

def AS.step (a : AS) : Op → AS × Outcome
  | .push x => ({ a with start := x, stack := a.stack ++ [a.start] }, .normal)
  | .pop =>
    match a.stack.getLast? with
    | none => (a, .fatal underflowMsg)
    | some t => ({ a with start := t, stack := a.stack.dropLast }, .normal)
  | .top => (a, .returned (a.stack.getLast?.getD a.start))
  | .begin_ x => ({ a with start := x }, .normal)
  | .lex => ({ a with inited := true }, .normal)

def cstep (s : State) : Op → State × Outcome
  | .push x => push.run (setVar s vArg x)
  | .pop => pop.run s
  | .top => top.run s
  | .begin_ x => begin_.run (setVar s vArg x)
  | .lex => lexInit.run s

def stops : Outcome → Bool
  | .fatal _ => true
  | .oob => true
  | _ => false

/-- what a caller observes: the outcomes, up to the first call that does not return -/
def crun : List Op → State → List Outcome
  | [], _ => []
  | op :: rest, s =>
    let r := cstep s op
    if stops r.2 then [r.2] else r.2 :: crun rest r.1

def arun : List Op → AS → List Outcome
  | [], _ => []
  | op :: rest, a =>
    let r := a.step op
    if stops r.2 then [r.2] else r.2 :: arun rest r.1

theorem step_refines {s : State} {a : AS} (h : R s a) (op : Op) :
    (cstep s op).2 = (a.step op).2 ∧ (stops (a.step op).2 = false → R (cstep s op).1 (a.step op).1) := by
  cases op with
  | push x => exact (push_refines h x).imp_right fun hR _ => hR
  | begin_ x => exact (begin_refines h x).imp_right fun hR _ => hR
  | lex => exact (lexInit_refines h).imp_right fun hR _ => hR
  | top => exact ⟨top_refines h, fun _ => (top_state s).symm ▸ h⟩
  | pop =>
    rcases List.eq_nil_or_concat a.stack with he | ⟨rest, t, hs⟩
    · simp [cstep, AS.step, he, pop_empty h he, stops]
    · rw [List.concat_eq_append] at hs
      simpa [cstep, AS.step, hs, stops] using pop_refines h rest t hs

def cstate : List Op → State → State
  | [], s => s
  | op :: rest, s => cstate rest (cstep s op).1
def astate : List Op → AS → AS
  | [], a => a
  | op :: rest, a => astate rest (a.step op).1

theorem run_refines : ∀ (ops : List Op) {s : State} {a : AS}, R s a →
    crun ops s = arun ops a ∧ ((∀ o ∈ arun ops a, stops o = false) → R (cstate ops s) (astate ops a))
  | [], _, _, h => ⟨rfl, fun _ => h⟩
  | op :: rest, s, a, h => by
    obtain ⟨ho, hr⟩ := step_refines h op
    simp only [crun, arun, cstate, astate, ho]
    cases hs : stops (a.step op).2
    · obtain ⟨h1, h2⟩ := run_refines rest (hr hs)
      exact ⟨by simp [h1], fun hall => h2 fun o ho => hall o (List.mem_cons_of_mem _ ho)⟩
    · simp [hs]

/-- **C05, stack**: for every sequence of calls the outcomes (normal return, the value of yy_top_state,
    the underflow error) are those of the list machine -/
theorem stack_refines : ∀ (ops : List Op) (s : State) (a : AS), R s a → crun ops s = arun ops a :=
  fun ops _ _ h => (run_refines ops h).1

def s0 : State := { vars := fun _ => 0, arr := [], log := [] }
def a0 : AS := {}

theorem R_init : R s0 a0 := ⟨rfl, rfl, Nat.le_refl _, rfl, Or.inr ⟨rfl, rfl, rfl⟩⟩

/-- no sequence of calls ever indexes the stack array out of bounds -/
theorem never_out_of_bounds (ops : List Op) : Outcome.oob ∉ crun ops s0 := by
  rw [stack_refines ops s0 a0 R_init]
  -- the list machine has no such outcome
  generalize a0 = a
  induction ops generalizing a with
  | nil => simp [arun]
  | cons op rest ih =>
    have hne : Outcome.oob ≠ (a.step op).2 := by
      cases op <;> simp [AS.step]
      split <;> simp
    simp only [arun]
    split <;> simp [hne, ih]

/-- once yylex has run, `yy_start` is `1 + 2 * (current start condition)` — the number the match loop
    starts from — whatever was pushed and popped, before or after -/
theorem start_state_encoding (ops : List Op) (hok : ∀ o ∈ arun ops a0, stops o = false)
    (hinit : (astate ops a0).inited = true) :
    (cstate ops s0).vars vStart = 1 + 2 * (astate ops a0).start := by
  rcases ((run_refines ops R_init).2 hok).start with h1 | ⟨h2, _⟩
  · exact h1
  · rw [hinit] at h2; cases h2

/-- LIFO, at the level of the specification: what was pushed last comes back first -/
theorem push_pop_restores (a : AS) (x : Int) :
    (((a.step (.push x)).1).step .pop).1.start = a.start ∧ (((a.step (.push x)).1).step .pop).1.stack = a.stack := by
  simp [AS.step]

/-- the premises can be met: a push *before* the first call of yylex, a call of yylex, the pop -/
example : crun [.push 3, .lex, .top, .pop, .top, .pop] s0 =
    [.normal, .normal, .returned 0, .normal, .returned 0, .fatal underflowMsg] := by
  rw [underflowMsg_eq]; decide

example : (cstate [.push 3, .lex, .pop] s0).vars vStart = 1 := by decide

end FlexVerif.C05Stack
