/-
  Props/C08Unput.lean — C08, yyunput(): the program of `Gen/Unput.lean`, translated by `tools/fv/gen_unput.py` from the
  `yyunput_r()` of a scanner flex has just generated.  The character buffer is an array of `yy_buf_size + 2` cells, every
  `char *` an offset into it.  The function is proved in three parts over the invariant `Mid`: the hold character goes
  back, the contents are shifted to the end of the buffer if there is no room, the character goes in.
-/
import FlexVerif.Imp.Lemmas
import FlexVerif.Gen.Unput

namespace FlexVerif.C08Unput
open FlexVerif.Imp FlexVerif.Gen.Unput

theorem setVar_vars (s : State) (x y : Nat) (v : Int) : (setVar s x v).vars y = if y = x then v else s.vars y := rfl
@[simp] theorem setVar_arr (s : State) (x : Nat) (v : Int) : (setVar s x v).arr = s.arr := rfl
@[simp] theorem setVar_log (s : State) (x : Nat) (v : Int) : (setVar s x v).log = s.log := rfl

/-- copy `m` cells upwards by `d`, last cell first -/
def shiftUp (arr : List Int) : Nat → Nat → List Int
  | 0, _ => arr
  | m + 1, d => shiftUp (arr.set (m + d) (arr.getD m 0)) m d

theorem shiftUp_length (arr : List Int) (m d : Nat) : (shiftUp arr m d).length = arr.length := by
  induction m generalizing arr with
  | zero => rfl
  | succ m ih => simp [shiftUp, ih]

theorem shiftUp_get (arr : List Int) (m d : Nat) (h : m + d ≤ arr.length) (j : Nat) :
    (shiftUp arr m d)[j]? = if d ≤ j ∧ j < m + d then arr[j - d]? else arr[j]? := by
  induction m generalizing arr with
  | zero => rw [shiftUp, if_neg (by omega)]
  | succ m ih =>
    rw [shiftUp, ih _ (by simp; omega)]
    by_cases hj : j = m + d
    · -- the cell this round writes
      subst hj
      rw [if_neg (by omega), if_pos (by omega), List.getElem?_set_self (by omega), Nat.add_sub_cancel,
        List.getD_eq_getElem?_getD, List.getElem?_eq_getElem (by omega), Option.getD_some]
    · by_cases h1 : d ≤ j ∧ j < m + d
      · rw [if_pos h1, if_pos (by omega), List.getElem?_set_ne (by omega)]
      · rw [if_neg h1, if_neg (by omega), List.getElem?_set_ne (by omega)]

theorem shiftUp_drop_take {arr : List Int} {m d : Nat} (h : m + d ≤ arr.length) {k j : Nat} (hk : k + j ≤ m) :
    ((shiftUp arr m d).drop (k + d)).take j = (arr.drop k).take j := by
  apply List.ext_getElem?
  intro i
  rw [List.getElem?_take, List.getElem?_take]
  split
  · rw [List.getElem?_drop, List.getElem?_drop, shiftUp_get _ _ _ h, if_pos (by omega)]
    congr 1; omega
  · rfl

def copyCond : Ex := .lt (.lit 0) (.var 10)                          -- while (source > buf)
def copyBody : St :=                                                 --   *--dest = *--source;
  .seq (.assign 9 (.add (.var 9) (.lit (-1)))) (.seq (.assign 10 (.add (.var 10) (.lit (-1)))) (.store (.var 9) (.idx (.var 10))))

def afterCopy (s : State) (m d : Nat) : State :=
  { s with vars := fun y => if y = 10 then 0 else if y = 9 then (d : Int) else s.vars y, arr := shiftUp s.arr m d }

theorem copy_loop : ∀ (m : Nat) (s : State) (d fuel : Nat), s.vars 10 = m → s.vars 9 = (m : Int) + d →
    m + d ≤ s.arr.length → m + 1 ≤ fuel →
    loop (fun s' => copyCond.eval s') (fun s' => copyBody.run s') fuel s = (afterCopy s m d, .normal) := by
  intro m
  induction m with
  | zero =>
    intro s d fuel h10 h9 _ hf
    -- `afterCopy` writes into `source` and `dest` what they hold already
    rw [loop_done (by omega) (by simp [copyCond, Ex.eval, h10, b2i]), show afterCopy s 0 d = setVar (setVar s 9 d) 10 0 from rfl,
      setVar_self (s := s) (by simpa using h9), setVar_self (by simpa using h10)]
  | succ m ih =>
    intro s d fuel h10 h9 hlen hf
    have e9 : s.vars 9 + -1 = (m + d : Nat) := by omega
    have e10 : s.vars 10 + -1 = m := by omega
    have hbody : copyBody.run s =
        ({ setVar (setVar s 9 (s.vars 9 + -1)) 10 (s.vars 10 + -1) with arr := s.arr.set (m + d) (s.arr.getD m 0) }, .normal) := by
      rw [copyBody, run_seq_normal (run_assign_some rfl), run_seq_normal (run_assign_some rfl), List.getD_eq_getElem?_getD,
        List.getElem?_eq_getElem (by omega), Option.getD_some]
      exact run_store_some (n := m + d) rfl (eval_idx_at (n := m) rfl e10 (by simp; omega)) e9 (by simp; omega)
    rw [loop_step (by omega) (v := 1) (by simp [copyCond, Ex.eval, h10, b2i]) (by decide) hbody,
      ih _ d _ e10 e9 (by simp; omega) (by omega)]
    congr 1
    -- what this round wrote into `dest` and `source` is written over
    refine State.ext (fun y => ?_) rfl rfl
    simp only [afterCopy, setVar_vars]
    split
    · rfl
    · split
      · rfl
      · simp [*]

def pre1 : St := .assign 6 (.var 0)                                  -- yy_cp = yy_c_buf_p
def pre2 : St := .store (.var 6) (.var 1)                            -- *yy_cp = yy_hold_char
def needShift : Ex := .lt (.var 6) (.add (.lit 0) (.lit 2))          -- yy_cp < buf + 2
def sh1 : St := .assign 8 (.add (.var 2) (.lit 2))                   -- number_to_move = yy_n_chars + 2
def sh2 : St := .assign 9 (.add (.var 4) (.lit 2))                   -- dest = &buf[yy_buf_size + 2]
def sh3 : St := .assign 10 (.var 8)                                  -- source = &buf[number_to_move]
def shRest : St :=
  .seq (.assign 6 (.add (.var 6) (.sub (.var 9) (.var 10))))
  (.seq (.assign 7 (.add (.var 7) (.sub (.var 9) (.var 10))))
  (.seq (.seq (.assign 2 (.var 4)) (.assign 3 (.var 2)))
        (.ite (.lt (.var 6) (.add (.lit 0) (.lit 2))) (.fatal 0) .skip)))
def tail_ : St :=
  .seq (.seq (.assign 6 (.add (.var 6) (.lit (-1)))) (.store (.var 6) (.var 11)))
  (.seq (.assign 5 (.var 7)) (.seq (.assign 1 (.idx (.var 6))) (.assign 0 (.var 6))))

/-- the translated function is made of these pieces (a change of the source shows here first) -/
theorem unput_shape : unput =
    .seq pre1 (.seq pre2 (.seq (.ite needShift (.seq sh1 (.seq sh2 (.seq sh3 (.seq (.while_ copyCond copyBody) shRest)))) .skip) tail_)) := rfl

/-- the state `yyunput` is called in: `B` = yy_buf_size, `n` = yy_n_chars characters in the buffer,
    `p` = yy_c_buf_p (the cell there holds the NUL that ends yytext, the character itself is in
    yy_hold_char), `bp` = the yy_bp handed in -/
structure Pre (s : State) (B n p bp : Nat) : Prop where
  len : s.arr.length = B + 2
  hn : n ≤ B
  vn : s.vars 2 = n
  vb : s.vars 4 = B
  hp : p ≤ n
  vp : s.vars 0 = p
  hbp : bp ≤ p
  vbp : s.vars 7 = bp
  eob1 : (s.arr.set p (s.vars 1))[n]? = some 0
  eob2 : s.arr[n + 1]? = some 0

/-- the text still to be scanned: from the scan position (with the hold character put back) to the
    end of the data -/
def unread (s : State) (n p : Nat) : List Int := ((s.arr.set p (s.vars 1)).drop p).take (n - p)

/-- the state `yyunput` leaves when it returns -/
structure Post (s' : State) (B n' p' bp' : Nat) : Prop where
  len : s'.arr.length = B + 2
  hn : n' ≤ B
  vn : s'.vars 2 = n'
  vb : s'.vars 4 = B
  hp : p' ≤ n'
  vp : s'.vars 0 = p'
  hbp : bp' ≤ p' + 1
  vtp : s'.vars 5 = bp'
  eob1 : (s'.arr.set p' (s'.vars 1))[n']? = some 0
  eob2 : s'.arr[n' + 1]? = some 0

def pushbackMsg : Nat := msgs.findIdx (· == "flex scanner push-back overflow")

/-- between the parts of the function: the hold character is back in its cell, `q` = yy_cp, `bp` = yy_bp, `c` the
    character to push back, `t` the text still to be scanned -/
structure Mid (s : State) (B n q bp : Nat) (c : Int) (t : List Int) : Prop where
  len : s.arr.length = B + 2
  hn : n ≤ B
  vn : s.vars 2 = n
  vb : s.vars 4 = B
  hq : q ≤ n
  vq : s.vars 6 = q
  hbp : bp ≤ q
  vbp : s.vars 7 = bp
  vc : s.vars 11 = c
  eob1 : s.arr[n]? = some 0
  eob2 : s.arr[n + 1]? = some 0
  text : (s.arr.drop q).take (n - q) = t

section
variable {s : State} {B n p q bp : Nat} {c : Int} {t : List Int}

theorem needShift_eval (h : s.vars 6 = q) : needShift.eval s = some (b2i (decide (q < 2))) :=
  congrArg (fun b => some (b2i b)) (decide_eq_decide.mpr (by omega : s.vars 6 < 0 + 2 ↔ q < 2))

theorem start_spec (h : Pre s B n p bp) (hc : s.vars 11 = c) {rest : St} {o : Outcome} {Q : State → Prop}
    (hrest : ∀ s1, Mid s1 B n p bp c (unread s n p) → Runs rest s1 o Q) : Runs (.seq pre1 (.seq pre2 rest)) s o Q := by
  obtain ⟨hlen, hn, vn, vb, hp, vp, hbp, vbp, e1, e2⟩ := h
  exact .seq (.assign rfl (.seq (.store (n := p) rfl rfl vp (by simp; omega) (hrest _
    ⟨(List.length_set ..).trans hlen, hn, vn, vb, hp, vp, hbp, vbp, hc, e1, (List.getElem?_set_ne (by omega)).trans e2, rfl⟩))))

theorem shift_spec (m : Mid s B n q bp c t) {d : Nat} (hd : n + d = B) :
    Runs (.seq sh1 (.seq sh2 (.seq sh3 (.seq (.while_ copyCond copyBody) shRest)))) s
      (if q + d < 2 then .fatal 0 else .normal) fun s' => Mid s' B B (q + d) (bp + d) c t ∧ s'.vars 3 = B := by
  obtain ⟨hlen, hn, vn, vb, hq, vq, hbp, vbp, vc, e1, e2, ht⟩ := m
  subst hd
  refine .seq (.assign rfl (.seq (.assign rfl (.seq (.assign rfl (.seq (.while_ (copy_loop (n + 2) _ d _ ?_ ?_ ?_ ?_)
    (.seq (.assign rfl (.seq (.assign rfl (.seq (.seq (.assign rfl (.assign rfl (.ite_fatal (needShift_eval ?v6)
      ⟨⟨(shiftUp_length ..).trans hlen, Nat.le_refl _, vb, vb, by omega, ?v6, by omega, ?_, vc, ?_, ?_, ?_⟩, vb⟩))))))))))))))))
  · show s.vars 2 + 2 = _; omega
  · show s.vars 4 + 2 = _; omega
  · show _ ≤ s.arr.length; omega
  · show _ ≤ s.arr.length + 3; omega
  · show s.vars 6 + (d - 0) = _; omega
  · show s.vars 7 + (d - 0) = _; omega
  · show (shiftUp s.arr (n + 2) d)[n + d]? = _
    rw [shiftUp_get _ _ _ (by omega), if_pos (by omega), Nat.add_sub_cancel, e1]
  · show (shiftUp s.arr (n + 2) d)[n + d + 1]? = _
    rw [shiftUp_get _ _ _ (by omega), if_pos (by omega), Nat.add_right_comm, Nat.add_sub_cancel, e2]
  · rw [Nat.add_sub_add_right]
    exact (shiftUp_drop_take (arr := s.arr) (by omega) (by omega)).trans ht

theorem take_drop_set_pred {l : List Int} {a : Int} (hq : 1 ≤ q) (hn : q ≤ n) (hl : q ≤ l.length) :
    ((l.set (q - 1) a).drop (q - 1)).take (n - (q - 1)) = a :: (l.drop q).take (n - q) := by
  rw [List.drop_eq_getElem_cons (by simp; omega), show n - (q - 1) = n - q + 1 by omega, List.take_succ_cons,
    List.getElem_set_self, show q - 1 + 1 = q by omega, List.drop_set_of_lt (by omega)]

theorem tail_spec (m : Mid s B n q bp c t) (h1 : 1 ≤ q) :
    Runs tail_ s .normal fun s' => Post s' B n (q - 1) bp ∧ unread s' n (q - 1) = c :: t ∧ s'.vars 3 = s.vars 3 := by
  obtain ⟨hlen, hn, vn, vb, hq, vq, hbp, vbp, vc, e1, e2, ht⟩ := m
  have h6 : s.vars 6 + -1 = (q - 1 : Nat) := by omega
  refine .seq (.seq (.assign rfl (.store (n := q - 1) rfl rfl h6 (by simp; omega) (.seq (.assign rfl (.seq
    (.assign (eval_idx_at (n := q - 1) rfl h6 (by simp; omega)) (.assign rfl ⟨⟨(List.length_set ..).trans hlen, hn, vn, vb,
      by omega, h6, by omega, vbp, ?_, (List.getElem?_set_ne (by omega)).trans e2⟩, ?_, rfl⟩))))))))
  · exact (List.getElem?_set_ne (by omega)).trans ((List.getElem?_set_ne (by omega)).trans e1)
  · show (((s.arr.set (q - 1) (s.vars 11)).set (q - 1) _).drop (q - 1)).take (n - (q - 1)) = c :: t
    rw [List.set_set, take_drop_set_pred h1 hq (by omega), ht]
    simp [setVar_vars, vc]

end

theorem unput_noshift {s : State} {B n p bp : Nat} {c : Int} (h : Pre s B n p bp) (hc : s.vars 11 = c) (h2 : 2 ≤ p) :
    ∃ s', unput.run s = (s', .normal) ∧ Post s' B n (p - 1) bp ∧ unread s' n (p - 1) = c :: unread s n p :=
  start_spec h hc fun _ m => .seq (.ite_neg (needShift_eval m.vq) (by omega)
    (.skip ((tail_spec m (by omega)).mono fun _ h' => ⟨h'.1, h'.2.1⟩)))

theorem unput_overflow {s : State} {B n p bp : Nat} (h : Pre s B n p bp) (hp2 : p < 2) (hf : p + (B - n) < 2) :
    (unput.run s).2 = .fatal pushbackMsg := by
  obtain ⟨_, hr, -⟩ : Runs unput s (.fatal 0) fun _ => True :=
    start_spec h rfl fun _ m => .seq_stop (.ite_pos (needShift_eval m.vq) hp2
      ((if_pos hf ▸ shift_spec m (Nat.add_sub_of_le m.hn)).mono fun _ _ => trivial)) nofun
  rw [hr]; rfl

theorem unput_shift {s : State} {B n p bp : Nat} {c : Int} (h : Pre s B n p bp) (hc : s.vars 11 = c)
    (hp2 : p < 2) (hroom : 2 ≤ p + (B - n)) :
    ∃ s', unput.run s = (s', .normal) ∧ Post s' B B (p + (B - n) - 1) (bp + (B - n)) ∧
      unread s' B (p + (B - n) - 1) = c :: unread s n p ∧ s'.vars 3 = B :=
  start_spec h hc fun _ m => .seq (.ite_pos (needShift_eval m.vq) hp2
    ((if_neg (Nat.not_lt.mpr hroom) ▸ shift_spec m (Nat.add_sub_of_le m.hn)).mono fun _ m2 =>
      (tail_spec m2.1 (by omega)).mono fun _ h' => ⟨h'.1, h'.2.1, h'.2.2.trans m2.2⟩))

/-- **C08, yyunput**: for every buffer size, fill level, scan position and character: the push-back
    overflow error exactly when there is no room even after shifting; otherwise the function returns,
    the unread text is the character followed by the unread text before, the end-of-buffer marks stand
    after the data, and after a shift the buffer's own character count is the scanner's -/
theorem unput_spec {s : State} {B n p bp : Nat} {c : Int} (h : Pre s B n p bp) (hc : s.vars 11 = c) :
    (p < 2 ∧ p + (B - n) < 2 → (unput.run s).2 = .fatal pushbackMsg) ∧
    (¬ (p < 2 ∧ p + (B - n) < 2) → ∃ s' n' p' bp', unput.run s = (s', .normal) ∧ Post s' B n' p' bp' ∧
        unread s' n' p' = c :: unread s n p ∧ (n' ≠ n → s'.vars 3 = n')) := by
  refine ⟨fun ⟨h1, h2⟩ => unput_overflow h h1 h2, fun hno => ?_⟩
  by_cases hp2 : p < 2
  · obtain ⟨s', hr, hpost, hu, h3⟩ := unput_shift h hc hp2 (by omega)
    exact ⟨s', B, _, _, hr, hpost, hu, fun _ => h3⟩
  · obtain ⟨s', hr, hpost, hu⟩ := unput_noshift h hc (by omega)
    exact ⟨s', n, _, _, hr, hpost, hu, fun hne => absurd rfl hne⟩

/-- the premises can be met — a buffer of 6 characters holding "ab", the scan position at its start
    (where a shift is needed): unput('z') leaves "zab" unread at the end of the buffer -/
def sEx : State :=
  { vars := fun y => if y = 1 then 97 else if y = 2 then 2 else if y = 4 then 6 else if y = 11 then 122 else 0,
    arr := [0, 98, 0, 0, 7, 7, 7, 7], log := [] }

example : Pre sEx 6 2 0 0 := by
  refine ⟨rfl, by decide, rfl, rfl, by decide, rfl, by decide, rfl, ?_, ?_⟩ <;> decide

example : (unput.run sEx).2 = .normal ∧ unread (unput.run sEx).1 6 3 = [122, 97, 98] ∧
    (unput.run sEx).1.vars 2 = 6 ∧ (unput.run sEx).1.vars 3 = 6 ∧ (unput.run sEx).1.arr = [97, 98, 0, 122, 97, 98, 0, 0] := by
  decide

end FlexVerif.C08Unput
