/-
  Props/C19Facts.lean — option wiring facts re-extracted from /repo on every run.
-/
import FlexVerif.Gen.M4Symbols
namespace FlexVerif

/-- **Every m4 symbol a skeleton tests can be defined** by the generator or by the skeleton
    itself: no option is wired to a symbol that is spelled differently on the other side. -/
theorem every_tested_symbol_is_definable :
    (Gen.undefinableTested.all fun p => p.2.isEmpty) = true := by decide

end FlexVerif
