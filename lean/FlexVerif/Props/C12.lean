/-
  Props/C12.lean — instances with disjoint state do not influence each other.

  A reentrant scanner keeps all of its mutable state in its own `yyscan_t` object; the tables are
  read-only and shared.  Abstractly: machines that share one step function, each over its own
  state, and a schedule saying whose turn it is.  Whatever the schedule, every machine ends in
  the state (and has produced the outputs) of running its own share of the schedule alone.
-/
namespace FlexVerif

structure Machine (σ ω : Type) where
  step : σ → σ × ω

/-- run machine `i`'s turns of a schedule, alone -/
def soloRun {σ ω : Type} (M : Machine σ ω) (i : Nat) (s : σ) : List Nat → σ × List ω
  | [] => (s, [])
  | j :: sched =>
    if j = i then
      let (s', o) := M.step s
      let (s'', os) := soloRun M i s' sched
      (s'', o :: os)
    else soloRun M i s sched

/-- run all machines under a schedule: `states i` is machine `i`'s state, outputs are tagged -/
def interleave {σ ω : Type} (M : Machine σ ω) (states : Nat → σ) : List Nat → (Nat → σ) × List (Nat × ω)
  | [] => (states, [])
  | j :: sched =>
    let (s', o) := M.step (states j)
    let states' := fun k => if k = j then s' else states k
    let (fin, outs) := interleave M states' sched
    (fin, (j, o) :: outs)

/-- **Interleaving independence**: for every schedule, machine `i` finishes in the state and
    with exactly the outputs of its solo run (other instances' steps are invisible to it). -/
theorem interleave_independent {σ ω : Type} (M : Machine σ ω) (states : Nat → σ) (sched : List Nat) (i : Nat) :
    (interleave M states sched).1 i = (soloRun M i (states i) sched).1 ∧
    ((interleave M states sched).2.filter (fun p => p.1 = i)).map (·.2) = (soloRun M i (states i) sched).2 := by
  induction sched generalizing states with
  | nil => exact ⟨rfl, rfl⟩
  | cons j sched ih =>
    have := ih fun k => if k = j then (M.step (states j)).1 else states k
    simp only [interleave, soloRun]
    by_cases h : j = i
    · subst h
      rw [if_pos rfl] at this
      rw [if_pos rfl, List.filter_cons_of_pos (by simp), List.map_cons, this.2]
      exact ⟨this.1, rfl⟩
    · rw [if_neg (Ne.symm h)] at this
      rw [if_neg h, List.filter_cons_of_neg (by simp [h])]
      exact this

/-- non-vacuity: two counters -/
example : ((interleave (⟨fun n : Nat => (n + 1, n)⟩ : Machine Nat Nat) (fun _ => 0) [0, 1, 0, 0]).1 0) = 3 := by
  decide

end FlexVerif
