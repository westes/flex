/-
  Props/C05StackC99.lean — C05 / C02: the start-condition stack of the **c99 back end**
  (`Gen/StartStackC99.lean`, from a scanner generated with `%option emit="c99"`; `yyscanner->` and the
  parameter dropped, `yybegin`/`yystart`, functions there, inlined).  The programs run to the same result
  as the default skeleton's on every state: the theorems of `Props/C05Stack.lean` hold of the c99 scanner.
-/
import FlexVerif.Gen.StartStackC99
import FlexVerif.Props.C05Stack
namespace FlexVerif.C05StackC99
open FlexVerif.Imp

/-- the NULL tests are spelt `p == 0` here and `!p` there: the two have the same value by definition, and so have the
    runs (the term `rfl` finds that too, at several times the cost of the tactic) -/
theorem push_same (s : State) : Gen.StartStackC99.push.run s = Gen.StartStack.push.run s := by
  rfl

theorem pop_same : Gen.StartStackC99.pop = Gen.StartStack.pop := rfl
theorem top_same : Gen.StartStackC99.top = Gen.StartStack.top := rfl
theorem begin_same : Gen.StartStackC99.begin_ = Gen.StartStack.begin_ := rfl
theorem start_same : Gen.StartStackC99.startEx = Gen.StartStack.startEx := rfl
theorem lexInit_same : Gen.StartStackC99.lexInit = Gen.StartStack.lexInit := rfl
theorem msgs_same : Gen.StartStackC99.msgs = Gen.StartStack.msgs := rfl

def cstep99 (s : State) : C05Stack.Op → State × Outcome
  | .push x => Gen.StartStackC99.push.run (setVar s Gen.StartStack.vArg x)
  | .pop => Gen.StartStackC99.pop.run s
  | .top => Gen.StartStackC99.top.run s
  | .begin_ x => Gen.StartStackC99.begin_.run (setVar s Gen.StartStack.vArg x)
  | .lex => Gen.StartStackC99.lexInit.run s

theorem cstep99_same (s : State) (op : C05Stack.Op) : cstep99 s op = C05Stack.cstep s op := by
  cases op with
  | push x => exact push_same _
  | _ => rfl

def crun99 : List C05Stack.Op → State → List Outcome
  | [], _ => []
  | op :: rest, s =>
    let r := cstep99 s op
    if C05Stack.stops r.2 then [r.2] else r.2 :: crun99 rest r.1

theorem crun99_same : ∀ (ops : List C05Stack.Op) (s : State), crun99 ops s = C05Stack.crun ops s := by
  intro ops
  induction ops with
  | nil => intro _; rfl
  | cons op rest ih => intro s; simp only [crun99, C05Stack.crun, cstep99_same, ih]

/-- **C05, c99 back end**: every sequence of calls of the c99 scanner's start-condition functions is
    observed as the list machine's -/
theorem stack_refines_c99 (ops : List C05Stack.Op) (s : State) (a : C05Stack.AS) (h : C05Stack.R s a) :
    crun99 ops s = C05Stack.arun ops a := by
  rw [crun99_same]; exact C05Stack.stack_refines ops s a h

end FlexVerif.C05StackC99
