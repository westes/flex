import FlexVerif.Runtime.MatchProofs
import FlexVerif.Runtime.BufProofs
/-
  Runtime/BufTable.lean — the buffer machine instantiated with flex's emitted tables, and the
  link between the two levels: the token the buffer machine settles on is the first alternative
  of the table-driven matcher of `Runtime/Match.lean`, hence (for tables the validator accepted)
  the token the manual prescribes.
-/
namespace FlexVerif
open Buf

/-- the emitted automaton as the match loop of a scanner sees it (start condition 0) -/
def tableDFA (T : Tables) (interactive : Bool) : Buf.DFA DState where
  start := fun bol => T.startState 0 bol
  step := fun s c => match T.step s c with
    | .jam => none
    | .bad => none
    | s' => some s'
  accept := fun s => match T.label s with
    | some l => ((labelRules T.reject l).head?)
    | none => none
  dead := fun s => interactive &&
    (List.range T.csize).all fun c => match T.step s (UInt8.ofNat c) with
      | .jam => true
      | _ => false

/-- the alternatives of `candsFrom` from `st` that are longer than `len` (`candsFrom_eq_deeper`).
    `absScan` records the accept of a state when it steps into it, never that of the state it
    starts in, so it finds the head of this list (`absScan_eq_deeper`), while `tableCands` also
    lists the rules of the start state itself, at length 0: hence `1 ≤ l` below. -/
def deeper (T : Tables) (st : DState) (rest : List UInt8) (len : Nat) : List (Nat × Nat) :=
  match rest with
  | [] => []
  | c :: rest' => candsFrom T.step (tblRules T) (T.step st c) rest' (len + 1)

theorem candsFrom_eq_deeper (T : Tables) (st : DState) (rest : List UInt8) (len : Nat) :
    candsFrom T.step (tblRules T) st rest len = deeper T st rest len ++ (tblRules T st).map (len, ·) := by
  cases rest <;> rfl

theorem upd_eq (T : Tables) (la : Last) (p : Nat) (s : DState) :
    upd (tableDFA T false) la p s = (((tblRules T s).map (p, ·)).head?).or la := by
  simp only [upd, tableDFA, tblRules]
  cases T.label s with
  | none => rfl
  | some l => dsimp only; cases labelRules T.reject l <;> rfl

theorem absScan_eq_deeper (T : Tables) :
    ∀ (rest : List UInt8) (st : DState) (la : Last) (len : Nat),
      absScan (tableDFA T false) st la len rest = ((deeper T st rest len).head?).or la
  | [], st, la, len => rfl
  | c :: rest, st, la, len => by
    have hd : (tableDFA T false).dead st = false := rfl
    simp only [absScan, deeper, hd, Bool.false_eq_true, if_false]
    cases hs : T.step st c with
    | jam => simp [tableDFA, hs, candsFrom_stuck]
    | bad => simp [tableDFA, hs, candsFrom_stuck]
    | st n =>
      have : (tableDFA T false).step st c = some (.st n) := by simp [tableDFA, hs]
      simp only [this]
      rw [absScan_eq_deeper T rest, upd_eq, candsFrom_eq_deeper, List.head?_append, Option.or_assoc]

/-- **The two levels agree on the token** (batch scanner `tableDFA T false`, start condition
    INITIAL).  Whenever the table-driven matcher's first alternative is a non-empty match
    (`1 ≤ l`), it is the token the buffer machine's reference scan finds. -/
theorem absTok_eq_tableCands_head (T : Tables) (bol : Bool) (inp : List UInt8) (l r : Nat)
    (tl : List (Nat × Nat)) (h : tableCands T 0 bol inp = (l, r) :: tl) (hl : 1 ≤ l) :
    absTok (tableDFA T false) bol inp = some (l, r) := by
  rw [tableCands_eq, candsFrom_eq_deeper, List.append_eq_cons_iff] at h
  rw [absTok, show (tableDFA T false).start bol = T.startState 0 bol from rfl, absScan_eq_deeper]
  obtain ⟨-, h⟩ | ⟨_, hd, -⟩ := h
  · -- every alternative of the start state itself has length 0
    have := (map_pair_head h).1
    omega
  · rw [hd]
    rfl

/-- **From the buffer to the manual.**  For tables the validator accepted (batch scanner without
    REJECT, in start condition INITIAL), the token found by scanning the whole remaining input —
    which by `Buf.run_tokens` is the token the buffer machine produces for every buffer size and
    every read schedule — is, when not empty (`1 ≤ l`), the longest match, first rule of the
    documentation. -/
theorem bufToken_selects (S : RuleSet) (T : Tables) (budget : Nat)
    (hv : (validate S T budget).ok = true) (hr : T.reject = false) (h0 : 0 < S.nsc)
    (bol : Bool) (inp : List UInt8) (hw : ∀ c ∈ inp, c.toNat < T.csize)
    (l r : Nat) (tl : List (Nat × Nat)) (h : tableCands T 0 bol inp = (l, r) :: tl) (hl : 1 ≤ l) :
    absTok (tableDFA T false) bol inp = some (l, r) ∧ S.Selects 0 bol inp l r :=
  ⟨absTok_eq_tableCands_head T bol inp l r tl h hl,
   tableCands_selects S T budget hv hr 0 h0 bol inp hw l r tl h⟩

end FlexVerif
