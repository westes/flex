/-
  Runtime/AbsProofs.lean — the state-changing helpers of the abstract scanner: which fields they
  touch, and what `setCurBuf` does to the current buffer.
  (`emit`, `fatal`, `noteNeed` are record updates: the fields they leave alone compute, as
  `Props/C05.lean` states for the start condition, its stack and the scripts.)
-/
import FlexVerif.Runtime.Abs
namespace FlexVerif
open AState

/-! Rewriting with one of these makes every other field of the result compute to that of `s`. -/

theorem AState.setCurBuf_eq (s : AState) (b : ABuf) : s.setCurBuf b = { s with bufs := (s.setCurBuf b).bufs } := by
  unfold setCurBuf; split <;> rfl

theorem AState.ensureBuf_eq (s : AState) : s.ensureBuf = { s with bufs := s.ensureBuf.bufs, cur := s.ensureBuf.cur } := by
  unfold ensureBuf; split <;> rfl

theorem AState.addLineno_eq (cfg : Cfg) (s : AState) (d : Int) :
    s.addLineno cfg d = { s with bufs := (s.addLineno cfg d).bufs, lineno := (s.addLineno cfg d).lineno } := by
  unfold addLineno
  split
  · rfl
  · split
    · rw [setCurBuf_eq]
    · rfl

def AState.HasCur (s : AState) : Prop := ∃ i, s.cur = some i ∧ i < s.bufs.size

theorem curBuf_setCurBuf {s : AState} {b : ABuf} (h : s.HasCur) : (s.setCurBuf b).curBuf = b := by
  obtain ⟨i, hi, hlt⟩ := h
  simp [AState.setCurBuf, AState.curBuf, hi, hlt]

theorem hasCur_setCurBuf {s : AState} {b : ABuf} (h : s.HasCur) : (s.setCurBuf b).HasCur := by
  obtain ⟨i, hi, hlt⟩ := h
  exact ⟨i, by simp [AState.setCurBuf, hi], by simp [AState.setCurBuf, hi, hlt]⟩

theorem hasCur_or_setCurBuf_eq (s : AState) : s.HasCur ∨ ∀ b, s.setCurBuf b = s := by
  unfold setCurBuf
  split
  · rename_i i hc
    cases Nat.lt_or_ge i s.bufs.size with
    | inl hi => exact .inl ⟨i, hc, hi⟩
    | inr hi => exact .inr fun b => by rw [Array.setIfInBounds_eq_of_size_le hi]
  · exact .inr fun _ => rfl

theorem ensureBuf_of_hasCur {s : AState} (h : s.HasCur) : s.ensureBuf = s := by
  obtain ⟨i, hi, _⟩ := h
  simp [AState.ensureBuf, hi]

end FlexVerif
