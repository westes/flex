import FlexVerif.Runtime.Match
/-
  Runtime/MatchProofs.lean — the specification matcher, and the table matcher for tables the
  validator accepted, select the token the manual prescribes (`RuleSet.Selects`, the "Matching"
  chapter of flex.texi).

  `specCands` and `tableCands` list the alternatives the abstract scanner tries at a position
  (REJECT order); the head is the token.  Both walk an automaton along the input and collect, per
  prefix, the rules its state accepts; `candsFrom` is that walk for any automaton, and the facts
  about the head of the list are proved of it.
-/
namespace FlexVerif

section
variable {σ : Type} (step : σ → UInt8 → σ) (rules : σ → List Nat)

/-- for every prefix of `rest`, longest first, the rules accepted in the state reached on it,
    paired with the length of the prefix (counted from `len`) -/
def candsFrom : σ → List UInt8 → Nat → List (Nat × Nat)
  | st, [], len => (rules st).map (len, ·)
  | st, c :: rest, len => candsFrom (step st c) rest (len + 1) ++ (rules st).map (len, ·)

variable {step rules}

theorem candsFrom_eq_nil {st : σ} {rest : List UInt8} {len : Nat} :
    candsFrom step rules st rest len = [] ↔
      ∀ k, k ≤ rest.length → rules ((rest.take k).foldl step st) = [] := by
  induction rest generalizing st len with
  | nil => simp [candsFrom]
  | cons c rest ih =>
    simp only [candsFrom, List.append_eq_nil_iff, List.map_eq_nil_iff, ih]
    constructor
    · rintro ⟨h1, h2⟩ k hk
      cases k with
      | zero => exact h2
      | succ k => exact h1 k (Nat.le_of_succ_le_succ hk)
    · exact fun h => ⟨fun k hk => h (k + 1) (Nat.succ_le_succ hk), h 0 (Nat.zero_le _)⟩

theorem map_pair_head {rs : List Nat} {len l r : Nat} {tl : List (Nat × Nat)}
    (h : rs.map (len, ·) = (l, r) :: tl) : l = len ∧ rs.head? = some r := by
  cases rs <;> simp_all

theorem candsFrom_head {st : σ} {rest : List UInt8} {len l r : Nat} {tl : List (Nat × Nat)}
    (h : candsFrom step rules st rest len = (l, r) :: tl) :
    ∃ k, k ≤ rest.length ∧ l = len + k ∧ (rules ((rest.take k).foldl step st)).head? = some r ∧
      ∀ k', k < k' → k' ≤ rest.length → rules ((rest.take k').foldl step st) = [] := by
  induction rest generalizing st len tl with
  | nil =>
    obtain ⟨rfl, hr⟩ := map_pair_head h
    exact ⟨0, Nat.le_refl _, rfl, hr, fun k' h1 h2 => nomatch Nat.lt_of_lt_of_le h1 h2⟩
  | cons c rest ih =>
    rw [candsFrom, List.append_eq_cons_iff] at h
    obtain ⟨hd, h⟩ | ⟨_, hd, -⟩ := h
    · obtain ⟨rfl, hr⟩ := map_pair_head h
      refine ⟨0, Nat.zero_le _, rfl, hr, fun k' h1 h2 => ?_⟩
      cases k' with
      | zero => cases h1
      | succ k' => exact candsFrom_eq_nil.mp hd k' (Nat.le_of_succ_le_succ h2)
    · obtain ⟨k, h1, h2, h3, h4⟩ := ih hd
      refine ⟨k + 1, Nat.succ_le_succ h1, h2.trans (Nat.add_right_comm ..), h3, fun k' hk1 hk2 => ?_⟩
      cases k' with
      | zero => cases hk1
      | succ k' => exact h4 k' (Nat.lt_of_succ_lt_succ hk1) (Nat.le_of_succ_le_succ hk2)

end

theorem dedupAdj_sublist {α : Type} [DecidableEq α] (l : List α) : (dedupAdj l).Sublist l := by
  fun_induction dedupAdj l with
  | case1 => exact List.Sublist.refl _
  | case2 => exact List.Sublist.refl _
  | case3 a l ih => exact List.Sublist.cons _ ih
  | case4 a b l h ih => exact List.Sublist.cons_cons _ ih

theorem SState.accTags_sorted (S : SState) : (SState.accTags S).Pairwise (· ≤ ·) := by
  unfold SState.accTags
  refine List.Pairwise.sublist (dedupAdj_sublist _) ?_
  have := List.pairwise_mergeSort (le := fun (a b : Nat) => decide (a ≤ b))
    (fun a b c h1 h2 => by simp at *; omega) (fun a b => by simp; omega)
    ((S.filter fun it => it.2.nullable).map fun it => it.1)
  exact this.imp fun h => by simpa using h

theorem firstFull_of_sorted {l : List Nat} (h : l.Pairwise (· ≤ ·)) :
    firstFull l = ((l.filter fun t => t % 2 = 0).map (· / 2)).head? := by
  induction l with
  | nil => rfl
  | cons t ts ih =>
    obtain ⟨ht, hts⟩ := List.pairwise_cons.mp h
    have hs := firstFull_spec ts
    by_cases he : t % 2 = 0
    · rw [firstFull, List.filter_cons_of_pos (by simpa using he)]
      cases hf : firstFull ts with
      | none => simp [he]
      | some j =>
        rw [hf] at hs
        have := ht _ hs.1
        by_cases hj : t / 2 < j
        · simp [he, hj]
        · simp only [he, hj, and_false, if_false, List.map_cons, List.head?_cons]
          exact congrArg some (Nat.le_antisymm (Nat.le_of_not_lt hj) (Nat.div_le_of_le_mul this))
    · rw [firstFull, List.filter_cons_of_neg (by simpa using he), ← ih hts]
      cases firstFull ts <;> simp [he]

def specRules (st : SState) : List Nat := (st.accTags.filter fun t => t % 2 = 0).map (· / 2)

@[simp] theorem SState.step_nil (c : Byte) : SState.step c [] = [] := by
  simp [SState.step, normItems, dedupAdj]

@[simp] theorem SState.run_nil_state (w : List Byte) : SState.run [] w = [] := by
  induction w with
  | nil => rfl
  | cons c w ih => rwa [SState.run_cons, SState.step_nil]

@[simp] theorem SState.accTags_nil : SState.accTags [] = [] := by
  simp [SState.accTags, dedupAdj]

theorem specCands_go_eq (st : SState) (rest : List UInt8) (len : Nat) (acc : List (Nat × Nat)) :
    specCands.go st rest len acc = candsFrom (fun q c => SState.step c q) specRules st rest len ++ acc := by
  induction rest generalizing st len acc with
  | nil => simp [specCands.go, candsFrom, specRules]
  | cons c rest ih =>
    rw [specCands.go, candsFrom]
    by_cases he : (st.step c).isEmpty
    · rw [List.isEmpty_iff.mp he,
        candsFrom_eq_nil.mpr fun k _ => show specRules (SState.run [] _) = [] by simp [specRules]]
      simp [specRules]
    · simp [he, ih, specRules]

theorem specCands_eq (S : RuleSet) (sc : Nat) (bol : Bool) (inp : List UInt8) :
    specCands S sc bol inp =
      candsFrom (fun q c => SState.step c q) specRules (S.startState sc bol) inp 0 := by
  rw [specCands, specCands_go_eq, List.append_nil]

section
variable {S : RuleSet} {sc : Nat} {bol : Bool} {inp : List UInt8}
  {σ : Type} {step : σ → UInt8 → σ} {rules : σ → List Nat} {st : σ}

/-- A matcher whose states give every prefix the first rule the documentation selects for it
    offers the documented token first. -/
theorem selects_of_candsFrom
    (hr : ∀ k, S.FirstRule sc bol (inp.take k) (rules ((inp.take k).foldl step st)).head?)
    {len i : Nat} {tl : List (Nat × Nat)} (h : candsFrom step rules st inp 0 = (len, i) :: tl) :
    S.Selects sc bol inp len i := by
  obtain ⟨k, h1, h2, h3, h4⟩ := candsFrom_head h
  obtain rfl : k = len := (Nat.zero_add k ▸ h2).symm
  exact ⟨h1, h3 ▸ hr k, fun len' a b => by have := hr len'; rwa [h4 len' a b] at this⟩

theorem noMatch_of_candsFrom
    (hr : ∀ k, S.FirstRule sc bol (inp.take k) (rules ((inp.take k).foldl step st)).head?)
    (h : candsFrom step rules st inp 0 = []) :
    ∀ len, len ≤ inp.length → ∀ j, ¬ S.RuleMatches sc bol j (inp.take len) := by
  intro len hl
  have := hr len
  rwa [candsFrom_eq_nil.mp h len hl] at this

end

theorem specRules_first (S : RuleSet) (sc : Nat) (bol : Bool) (w : List UInt8) :
    S.FirstRule sc bol w (specRules ((S.startState sc bol).run w)).head? := by
  rw [specRules, ← firstFull_of_sorted (SState.accTags_sorted _)]
  exact S.specAuto_first sc bol w

/-- **Longest match, first rule.**  For every rule set, start condition, line-start state and
    remaining input, the first alternative of the specification matcher is the token the manual
    prescribes: no active rule matches a longer prefix, and no earlier rule matches this one. -/
theorem specCands_selects (S : RuleSet) (sc : Nat) (bol : Bool) (inp : List UInt8)
    (len i : Nat) (tl : List (Nat × Nat)) (h : specCands S sc bol inp = (len, i) :: tl) :
    S.Selects sc bol inp len i :=
  selects_of_candsFrom (fun _ => specRules_first ..) (specCands_eq S sc bol inp ▸ h)

/-- … and when it offers no alternative, no active rule matches any prefix (the scanner is
    jammed; cannot happen when the default rule is present and input remains). -/
theorem specCands_nil (S : RuleSet) (sc : Nat) (bol : Bool) (inp : List UInt8)
    (h : specCands S sc bol inp = []) :
    ∀ len, len ≤ inp.length → ∀ j, ¬ S.RuleMatches sc bol j (inp.take len) :=
  noMatch_of_candsFrom (fun _ => specRules_first ..) (specCands_eq S sc bol inp ▸ h)

/-- **The scanner never jams** while some active rule (the default rule, in every rule set flex
    accepts without `nodefault`) matches the next byte: the hypothesis of `specCands_selects`
    is met at every position of every input. -/
theorem specCands_ne_nil (S : RuleSet) (sc : Nat) (bol : Bool) (c : UInt8) (rest : List UInt8)
    (j : Nat) (hdef : S.RuleMatches sc bol j [c]) : specCands S sc bol (c :: rest) ≠ [] :=
  fun h => specCands_nil S sc bol (c :: rest) h 1 (Nat.succ_pos _) j hdef

def tblRules (T : Tables) (st : DState) : List Nat :=
  match T.label st with
  | some l => labelRules T.reject l
  | none => []

theorem tblRun_stuck (T : Tables) {st : DState} (h : st = .jam ∨ st = .bad) (w : List UInt8) :
    (tblAuto T).run st w = st := by
  induction w with
  | nil => rfl
  | cons c w ih => rcases h with rfl | rfl <;> exact ih

theorem candsFrom_stuck (T : Tables) {st : DState} (h : st = .jam ∨ st = .bad)
    (rest : List UInt8) (len : Nat) : candsFrom T.step (tblRules T) st rest len = [] := by
  refine candsFrom_eq_nil.mpr fun k _ => show tblRules T ((tblAuto T).run st _) = [] from ?_
  rw [tblRun_stuck T h]
  rcases h with rfl | rfl <;> simp [tblRules, Tables.label, labelRules]

theorem tableCands_go_eq (T : Tables) (st : DState) (rest : List UInt8) (len : Nat)
    (acc : List (Nat × Nat)) :
    tableCands.go T st rest len acc = candsFrom T.step (tblRules T) st rest len ++ acc := by
  induction rest generalizing st len acc with
  | nil => rw [tableCands.go, candsFrom, tblRules]; cases T.label st <;> rfl
  | cons c rest ih =>
    rw [tableCands.go, candsFrom, tblRules]
    cases T.label st <;> cases h : T.step st c <;>
      simp [ih, candsFrom_stuck T (.inl rfl), candsFrom_stuck T (.inr rfl)]

theorem tableCands_eq (T : Tables) (sc : Nat) (bol : Bool) (inp : List UInt8) :
    tableCands T sc bol inp = candsFrom T.step (tblRules T) (T.startState sc bol) inp 0 := by
  rw [tableCands, tableCands_go_eq, List.append_nil]

/-- **The emitted tables select the documented token** (scanners without REJECT): whenever the
    validator accepts flex's tables for a rule set, then for every start condition, line-start
    state and input over the scanner's character set, the first alternative the table-driven
    matcher offers is the longest match, and among the rules matching that text the first. -/
theorem tableCands_selects (S : RuleSet) (T : Tables) (budget : Nat)
    (hv : (validate S T budget).ok = true) (hr : T.reject = false)
    (sc : Nat) (hsc : sc < S.nsc) (bol : Bool) (inp : List UInt8)
    (hw : ∀ c ∈ inp, c.toNat < T.csize)
    (len i : Nat) (tl : List (Nat × Nat)) (h : tableCands T sc bol inp = (len, i) :: tl) :
    S.Selects sc bol inp len i := by
  refine selects_of_candsFrom (fun k => ?_) (tableCands_eq T sc bol inp ▸ h)
  obtain ⟨l, hl, hlab⟩ := validate_first_rule S T budget hv hr sc hsc bol (inp.take k)
    fun c hc => hw c (List.mem_of_mem_take hc)
  change T.label ((inp.take k).foldl T.step _) = _ at hlab
  have : (tblRules T ((inp.take k).foldl T.step (T.startState sc bol))).head? = l := by
    rw [tblRules, hlab]
    cases l <;> simp [labelRules, hr]
  exact this ▸ hl

end FlexVerif
