import FlexVerif.Runtime.Buf
/-
  Runtime/BufProofs.lean — the buffer machine of `Runtime/Buf.lean` refines a scan of the whole
  remaining input, whatever the buffer size and however the input routine cuts the input.
-/
namespace FlexVerif.Buf

/-- what is still to be tokenised -/
def unread (st : BState) : List UInt8 := st.buf.drop st.tok ++ st.src

theorem growTo_ge (p : Nat) : ∀ (fuel size : Nat), p + 2 ≤ fuel + size → p + 2 ≤ growTo size p fuel
  | 0, size, h => Nat.zero_add size ▸ h
  | fuel + 1, size, h => by
    simp only [growTo]
    split
    · assumption
    · apply growTo_ge p fuel
      split <;> omega

theorem growTo_mono (p : Nat) : ∀ (fuel size : Nat), size ≤ growTo size p fuel
  | 0, size => Nat.le_refl _
  | fuel + 1, size => by
    rw [growTo]
    split
    · exact Nat.le_refl _
    · exact Nat.le_trans (by split <;> omega) (growTo_mono p fuel _)

theorem drop_eq_cons {α : Type} {l : List α} {p : Nat} {c : α} {t : List α} (h : l.drop p = c :: t) :
    l.take (p + 1) = l.take p ++ [c] ∧ l.drop (p + 1) = t ∧ p < l.length := by
  have hlt : p < l.length :=
    Nat.lt_of_not_le fun hle => nomatch (List.drop_eq_nil_of_le hle).symm.trans h
  rw [List.drop_eq_getElem_cons hlt] at h
  obtain ⟨rfl, rfl⟩ := List.cons.inj h
  exact ⟨by rw [List.take_add_one, List.getElem?_eq_getElem hlt]; rfl, rfl, hlt⟩

theorem drop_take_eq {α : Type} (l : List α) (a b : Nat) : (l.take (a + b)).drop a = (l.drop a).take b := by
  rw [List.drop_take]; simp

theorem length_unread (st : BState) : (unread st).length = st.buf.length - st.tok + st.src.length := by
  simp [unread]

theorem unread_drop {st : BState} {q : Nat} (h : st.tok + q ≤ st.buf.length) :
    (unread st).drop q = st.buf.drop (st.tok + q) ++ st.src := by
  rw [unread, List.drop_append_of_le_length (List.length_drop ▸ Nat.le_sub_of_add_le' h), List.drop_drop]

theorem prevState_nil {σ : Type} (D : DFA σ) (bol : Bool) : prevState D bol [] = some (D.start bol) := rfl

theorem prevState_snoc {σ : Type} (D : DFA σ) (bol : Bool) (t : List UInt8) (c : UInt8) :
    prevState D bol (t ++ [c]) = (prevState D bol t).bind fun s => D.step s c := by
  simp [prevState, List.foldl_append]

theorem absScan_dead {σ : Type} (D : DFA σ) {s : σ} (h : D.dead s = true) (la : Last) (p : Nat)
    (inp : List UInt8) : absScan D s la p inp = la := by
  cases inp <;> simp [absScan, h]

structure Inv (st : BState) : Prop where
  tok_le : st.tok + st.pre ≤ st.buf.length
  fits : st.buf.length ≤ st.size
  pending : st.eofPending = true → st.src = []
  size_pos : 1 ≤ st.size

theorem numToRead_spec {size p : Nat} (h : p + 2 ≤ size) :
    0 < min (size - p - 1) readBufSize ∧ p + min (size - p - 1) readBufSize ≤ size := by
  simp only [readBufSize]
  omega

theorem refill_spec (rd : Reader) (hrd : rd.OK) (st : BState) (p : Nat) (hi : Inv st)
    (hp : st.tok + p = st.buf.length) (hpre : st.pre ≤ p) :
    let r := refill rd st p
    unread r.1 = unread st ∧ r.1.tok = 0 ∧ r.1.buf.length = p + r.2 ∧ r.1.atBol = st.atBol ∧
      r.1.eofPending = st.eofPending ∧ Inv r.1 ∧ (r.2 = 0 → r.1.src = []) ∧
      r.1.buf.take p = (unread st).take p ∧
      tokensOf r.1.out.toList = tokensOf st.out.toList ∧ r.1.pre = st.pre := by
  have hplen : (st.buf.drop st.tok).length = p := by
    rw [List.length_drop, ← hp, Nat.add_sub_cancel_left]
  have hpart : (st.buf.drop st.tok).take p = st.buf.drop st.tok := List.take_of_length_le (Nat.le_of_eq hplen)
  simp only [refill, hpart]
  split
  · -- EOF pending: nothing is read
    have hs := hi.pending ‹_›
    refine ⟨?_, rfl, hplen, rfl, rfl, ?_, fun _ => hs, ?_, rfl, rfl⟩
    · simp [unread, hs]
    · exact {
        tok_le := by rwa [hplen, Nat.zero_add]
        fits := List.length_drop ▸ Nat.le_trans (Nat.sub_le ..) hi.fits
        pending := fun _ => hs
        size_pos := hi.size_pos }
    · simp [unread, hs]
  · have hg := growTo_ge p (p + 2) st.size (Nat.le_add_right ..)
    generalize growTo st.size p (p + 2) = size at hg ⊢
    obtain ⟨hpos, hfit⟩ := numToRead_spec hg
    obtain ⟨hkmax, hkavail, hkpos⟩ := hrd st.calls (min (size - p - 1) readBufSize) st.src.length
    generalize rd st.calls (min (size - p - 1) readBufSize) st.src.length = k at hkmax hkavail hkpos
    have hlen : (st.buf.drop st.tok ++ st.src.take k).length = p + k := by
      rw [List.length_append, List.length_take, hplen, Nat.min_eq_left hkavail]
    refine ⟨?_, rfl, hlen, rfl, rfl, ?_, fun hk0 => ?_, ?_, ?_, rfl⟩
    · simp [unread]
    · exact {
        tok_le := by rw [hlen, Nat.zero_add]; exact Nat.le_trans hpre (Nat.le_add_right ..)
        fits := hlen ▸ Nat.le_trans (Nat.add_le_add_left hkmax p) hfit
        pending := fun h => absurd h ‹_›
        size_pos := Nat.le_trans (Nat.le_add_left 1 (p + 1)) hg }
    · -- a reader returns nothing only at the end of the input
      subst hk0
      exact List.eq_nil_of_length_eq_zero (Nat.eq_zero_of_not_pos fun h => Nat.lt_irrefl 0 (hkpos h hpos))
    · simp [unread, hplen]
    · simp [tokensOf]

/-- the last accept lies within the `p` characters scanned; as these are in the buffer, so is the
    position the loop backs up to (the sixth clause of `ScanPost`) -/
def LaLe (la : Last) (p : Nat) : Prop := ∀ l r, la = some (l, r) → l ≤ p

theorem upd_LaLe {σ : Type} (D : DFA σ) (la : Last) (p : Nat) (s : σ) (h : LaLe la p) :
    LaLe (upd D la (p + 1) s) (p + 1) := by
  intro l r hh
  unfold upd at hh
  split at hh
  · cases hh; exact Nat.le_refl _
  · exact Nat.le_succ_of_le (h l r hh)

/-- What `scan_spec` says of the result `r` of a match loop entered with unread input `U`,
    line-start flag `bol`, yymore prefix `pre` and tokens `T` put out so far: the four are as they
    were (a refill only moves bytes of `U` from the source into the buffer) and the last accept is
    `expect`, for which `scan_spec` puts the reference scan of `U`; end of file is reported only
    when nothing but the prefix is left. -/
structure ScanPost {σ : Type} (D : DFA σ) (U : List UInt8) (bol : Bool) (pre : Nat)
    (T : List (Nat × List UInt8)) (expect : Last) (r : Res σ) : Prop where
  ok : match r with
    | .tok st' la' =>
        la' = expect ∧ unread st' = U ∧ st'.atBol = bol ∧ st'.pre = pre ∧ Inv st' ∧
          (∀ l r, la' = some (l, r) → st'.tok + st'.pre + l ≤ st'.buf.length) ∧
          tokensOf st'.out.toList = T
    | .eof st' => U.length ≤ pre ∧ expect = none ∧ Inv st' ∧ tokensOf st'.out.toList = T
    | .fuel => False

/-- The central invariant step: from any point of the match loop — `p` characters of the
    token scanned (after a carried prefix of `pre` characters), all of them in the buffer, in the
    state the automaton reaches on them — the loop ends with the result of scanning the rest of
    the *whole* remaining input.  The fuel: a character still to come costs at most two rounds of
    the loop, a refill that returns something and the look at the character; the `if` is the
    refill due at once when the scan position is the end of the buffer; one more round ends the
    loop.  `tokFuel` is above this bound at `p = 0`. -/
theorem scan_spec {σ : Type} (D : DFA σ) (rd : Reader) (hrd : rd.OK) :
    ∀ (fuel : Nat) (st : BState) (p : Nat) (s : σ) (la : Last) (rem : List UInt8),
      rem = st.buf.drop (st.tok + st.pre + p) →
      Inv st → st.tok + st.pre + p ≤ st.buf.length →
      prevState D st.atBol (((unread st).drop st.pre).take p) = some s →
      LaLe la p →
      (p = 0 → la = none) →
      2 * ((unread st).length - st.pre - p) + (if st.tok + st.pre + p < st.buf.length then 0 else 1) + 1 ≤ fuel →
      ScanPost D (unread st) st.atBol st.pre (tokensOf st.out.toList)
        (absScan D s la p (((unread st).drop st.pre).drop p))
        (scan D rd fuel st p s la rem)
  | 0, _, _, _, _, _, _, _, _, _, _, _, hf => (Nat.not_succ_le_zero _ hf).elim
  | fuel + 1, st, p, s, la, rem, hrem, hi, hp, hs, hla, hp0, hf => by
    -- the loop stops here with `la`, provided the scan of the whole input does
    have stop : ∀ {e : Last}, e = la →
        ScanPost D (unread st) st.atBol st.pre (tokensOf st.out.toList) e (.tok st la) := fun h =>
      ⟨h.symm, rfl, rfl, rfl, hi, fun l r hh => Nat.le_trans (Nat.add_le_add_left (hla l r hh) _) hp, rfl⟩
    -- what is left of the whole input is what is left of the buffer, then the source
    have hV : ((unread st).drop st.pre).drop p = rem ++ st.src := by
      rw [List.drop_drop, unread_drop (Nat.add_assoc .. ▸ hp), hrem, Nat.add_assoc]
    simp only [scan]
    by_cases hd : D.dead s
    · -- an interactive scanner stops here
      rw [if_pos hd]
      exact stop (absScan_dead D hd ..)
    · rw [if_neg hd]
      cases rem with
      | cons c rem' =>
        obtain ⟨hsnoc, hnext, hpU⟩ := drop_eq_cons (t := rem' ++ st.src) hV
        obtain ⟨_, hrem', hlt⟩ := drop_eq_cons hrem.symm
        rw [hV, List.cons_append]
        simp only [absScan, hd, Bool.false_eq_true, if_false]
        cases hstep : D.step s c with
        | none => exact stop rfl
        | some s' =>
          have := scan_spec D rd hrd fuel st (p + 1) s' (upd D la (p + 1) s') rem' hrem'.symm hi hlt
            (by rw [hsnoc, prevState_snoc, hs]; exact hstep) (upd_LaLe D la p s' hla) nofun
            (by
              simp only [List.length_drop] at hpU
              rw [if_pos hlt] at hf
              split <;> omega)
          rwa [hnext] at this
      | nil =>
        have hpe : st.tok + st.pre + p = st.buf.length :=
          Nat.le_antisymm hp (List.drop_eq_nil_iff.mp hrem.symm)
        have hr := refill_spec rd hrd st (st.pre + p) hi (Nat.add_assoc .. ▸ hpe) (Nat.le_add_right ..)
        generalize refill rd st (st.pre + p) = rr at hr ⊢
        obtain ⟨st', k⟩ := rr
        dsimp only at hr ⊢
        obtain ⟨hun, htok, hlen, hbol, -, hinv, hsrc, htake, hout, hpre⟩ := hr
        by_cases hk : k = 0
        · -- nothing more: end of file, or the last match
          have hU : (unread st).length = st.pre + p := by
            rw [← hun, length_unread, htok, hlen, hk, hsrc hk]
            rfl
          have hab : absScan D s la p (((unread st).drop st.pre).drop p) = la := by
            rw [List.drop_drop, List.drop_eq_nil_of_le (Nat.le_of_eq hU), absScan]
          rw [if_pos hk, hab]
          by_cases hz : p = 0
          · subst hz
            exact ⟨Nat.le_of_eq hU, hp0 rfl, hinv, hout⟩
          · rw [if_neg hz]
            exact ⟨rfl, hun, hbol, hpre, { hinv with pending := fun _ => hsrc hk },
              fun l r hh => by
                rw [htok, hlen, hpre, Nat.zero_add]
                exact Nat.le_trans (Nat.add_le_add_left (hla l r hh) _) (Nat.le_add_right ..), hout⟩
        · rw [if_neg hk]
          -- the state computed again from the moved text is the same state
          have hprev : prevState D st.atBol ((st'.buf.drop st.pre).take p) = some s := by
            rw [← drop_take_eq, htake, drop_take_eq]; exact hs
          rw [hprev]
          have hlt' : st'.tok + st.pre + p < st'.buf.length := by
            rw [htok, hlen, Nat.zero_add]
            exact Nat.lt_add_of_pos_right (Nat.pos_of_ne_zero hk)
          have := scan_spec D rd hrd fuel st' p s la (st'.buf.drop (st.pre + p))
            (by rw [htok, hpre, Nat.zero_add]) hinv (Nat.le_of_lt (hpre ▸ hlt'))
            (by rw [hun, hbol, hpre]; exact hs) hla hp0 (by
              rw [hun, hpre, if_pos hlt']
              rw [if_neg (Nat.ne_of_lt · hpe)] at hf
              exact Nat.le_of_succ_le_succ hf)
          rwa [hun, hbol, hout, hpre] at this

theorem tokensOf_push_tok (a : Array Ev) (r : Nat) (t : List UInt8) :
    tokensOf (a.push (.tok r t)).toList = tokensOf a.toList ++ [(r, t)] := by
  simp [tokensOf, List.filterMap_append]

theorem tokensOf_push_jammed (a : Array Ev) :
    tokensOf (a.push .jammed).toList = tokensOf a.toList := by
  simp [tokensOf, List.filterMap_append]

/-- an action moves the token start by as much as it drops from the front of the unread input -/
theorem apply_shift (a : Act) (tok pre len : Nat) :
    (a.apply tok pre len).1 = tok + (a.apply 0 pre len).1 ∧ (a.apply tok pre len).2 = (a.apply 0 pre len).2 ∧
      (a.apply tok pre len).1 + (a.apply tok pre len).2 ≤ tok + len := by
  cases a <;> simp [Act.apply] <;> omega

theorem advance_spec {st : BState} (hi : Inv st) {n : Nat} (hb : st.tok + n ≤ st.buf.length)
    (a : Act) (bol : Bool) (out : Array Ev) :
    let st' : BState := { st with tok := (a.apply st.tok st.pre n).1, pre := (a.apply st.tok st.pre n).2,
                                  atBol := bol, out := out }
    Inv st' ∧ unread st' = (unread st).drop (a.apply 0 st.pre n).1 ∧
      (st.buf.drop st.tok).take n = (unread st).take n := by
  obtain ⟨ha1, ha2, ha3⟩ := apply_shift a st.tok st.pre n
  have htl := Nat.le_trans ha3 hb
  refine ⟨{ hi with tok_le := htl }, ?_, ?_⟩
  · simp only [ha1]; rw [unread_drop (ha1 ▸ Nat.le_trans (Nat.le_add_right ..) htl)]; rfl
  · rw [unread, List.take_append_of_le_length (List.length_drop ▸ Nat.le_sub_of_add_le' hb)]

/-- **Delivery independence (C03), buffer level.**  Whatever the buffer size (≥ 1), however the
    input routine cuts the input into reads (`Reader.OK`: between 1 and the requested number of
    bytes while input remains) and whatever the actions do with yyless() and yymore(), the tokens
    the buffer machine produces — rule and yytext, carried prefix included — are those of the
    buffer-less reference `absLex` on the whole input; and the buffer never holds more than
    `yy_buf_size` characters. -/
theorem run_tokens {σ : Type} (D : DFA σ) (rd : Reader) (hrd : rd.OK) (act : Script) :
    ∀ (fuel k : Nat) (st : BState), Inv st →
      tokensOf (run D rd act fuel k st).out.toList =
        tokensOf st.out.toList ++ absLex D act fuel k st.atBol st.pre (unread st) ∧
      Inv (run D rd act fuel k st)
  | 0, k, st, hi => by simp [run, absLex, hi]
  | fuel + 1, k, st, hi => by
    have hsp := (scan_spec D rd hrd (tokFuel st) st 0 (D.start st.atBol) none (st.buf.drop (st.tok + st.pre))
      rfl hi hi.tok_le rfl nofun (fun _ => rfl)
      (by simp only [tokFuel, ← length_unread]; split <;> omega)).ok
    -- the machine and the reference both stop
    have stop : ∀ {st' : BState}, Inv st' → tokensOf st'.out.toList = tokensOf st.out.toList →
        ∀ ⦃L : List (Nat × List UInt8)⦄, L = [] →
        tokensOf st'.out.toList = tokensOf st.out.toList ++ L ∧ Inv st' :=
      fun hi h _ he => ⟨by rw [he, h, List.append_nil], hi⟩
    simp only [run]
    generalize scan D rd (tokFuel st) st 0 (D.start st.atBol) none (st.buf.drop (st.tok + st.pre)) = res at hsp ⊢
    cases res with
    | fuel => exact hsp.elim
    | eof st' =>
      obtain ⟨hshort, _, hinv, hout⟩ := hsp
      exact stop hinv hout (by simp [absLex, hshort])
    | tok st' la' =>
      obtain ⟨hla', hun, hbol, hpre, hinv, hfit, hout⟩ := hsp
      have habs : absTok D st.atBol ((unread st).drop st.pre) = la' := hla'.symm
      have jam := stop (st' := { st' with out := st'.out.push .jammed }) { hinv with }
        ((tokensOf_push_jammed _).trans hout)
      obtain _ | ⟨_ | l, r⟩ := la'
      · exact jam (by simp [absLex, habs])
      · exact jam (by simp [absLex, habs])
      · have hb := hfit _ r rfl
        simp only [Nat.add_one_ne_zero, if_false]
        generalize htx : (st'.buf.drop st'.tok).take (st'.pre + (l + 1)) = text
        obtain ⟨hi', hun', htext⟩ := advance_spec hinv (n := st'.pre + (l + 1)) (Nat.add_assoc .. ▸ hb)
          (act k r text).1 (endsNl text st'.atBol) (st'.out.push (.tok r text))
        obtain ⟨ih1, ih2⟩ := run_tokens D rd hrd act fuel _ _ hi'
        refine ⟨?_, ih2⟩
        have hlen : ¬ (unread st).length ≤ st.pre := by
          rw [← hun, length_unread]; omega
        rw [ih1, hun']
        rw [htx, hpre, hun] at htext
        simp only [tokensOf_push_tok, hout, absLex, hlen, if_false, habs, Nat.add_one_ne_zero,
          (apply_shift _ st'.tok _ _).2.1, htext, hun, hbol, hpre, List.append_assoc, List.singleton_append]

theorem init_Inv (size : Nat) (src : List UInt8) (h : 1 ≤ size) : Inv (init size src) :=
  ⟨Nat.le_refl 0, Nat.zero_le _, nofun, h⟩

theorem run_from_init {σ : Type} (D : DFA σ) (rd : Reader) (hrd : rd.OK) (act : Script) (size : Nat)
    (hs : 1 ≤ size) (src : List UInt8) (fuel : Nat) :
    tokensOf (run D rd act fuel 0 (init size src)).out.toList = absLex D act fuel 0 true 0 src ∧
      (run D rd act fuel 0 (init size src)).buf.length ≤ (run D rd act fuel 0 (init size src)).size := by
  obtain ⟨h1, h2⟩ := run_tokens D rd hrd act fuel 0 (init size src) (init_Inv size src hs)
  refine ⟨?_, h2.fits⟩
  rw [h1]; simp [init, unread, tokensOf]

/-- C03's first sentence at the buffer level, under the name the checks cite.  **Partial**: it
    is a statement about `Runtime/Buf.lean`, which covers scanners whose actions use yyless() and
    yymore() (%pointer) but not yyunput / yyinput / buffer switches, without REJECT's state stack,
    with the end-of-buffer test as a position test (the NUL sentinel detour is not in the model)
    and without `int` overflow of the buffer size.  The full property is explored against the
    abstract scanner of `Runtime/Abs.lean`. -/
theorem delivery_independent_partial {σ : Type} (D : DFA σ) (rd : Reader) (hrd : rd.OK) (act : Script)
    (size : Nat) (hs : 1 ≤ size) (src : List UInt8) (fuel : Nat) :
    tokensOf (run D rd act fuel 0 (init size src)).out.toList = absLex D act fuel 0 true 0 src :=
  (run_from_init D rd hrd act size hs src fuel).1

theorem schedReader_OK (sched : List Nat) : (schedReader sched).OK := by
  intro i max avail
  refine ⟨Nat.le_trans (Nat.min_le_left ..) (Nat.min_le_right ..), Nat.min_le_right .., fun h1 h2 => ?_⟩
  refine Nat.lt_min.mpr ⟨Nat.lt_min.mpr ⟨?_, h2⟩, h1⟩
  split <;> split <;> omega

/-- non-vacuity: a two-state automaton for `a+ | b`, buffer of one byte, one byte per read;
    in the second run the first action keeps one character and asks for more -/
def exD : DFA Nat where
  start := fun _ => 0
  step := fun s c => if c == 97 then (if s == 0 || s == 1 then some 1 else none) else if c == 98 && s == 0 then some 2 else none
  accept := fun s => if s == 1 then some 1 else if s == 2 then some 2 else none
  dead := fun _ => false

example : tokensOf (run exD (schedReader [1]) (fun k _ _ => (.plain, k + 1)) 10 0 (init 1 [97, 97, 98, 97])).out.toList =
    [(1, [97, 97]), (2, [98]), (1, [97])] := by decide

example : tokensOf (run exD (schedReader [1]) (fun k _ _ => (if k == 0 then .lessMore 1 else .plain, k + 1)) 10 0
    (init 1 [97, 97, 98, 97])).out.toList = [(1, [97, 97]), (1, [97, 97]), (2, [98]), (1, [97])] := by decide

end FlexVerif.Buf
