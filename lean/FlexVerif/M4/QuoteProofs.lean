import FlexVerif.M4.Quote
/-
  M4/QuoteProofs.lean — user code protected by scheme A or scheme B comes out of m4 byte for byte:
  one induction over `esc` for any pair of escape sequences that `Protects` admits, then the two
  schemes as instances.
-/
namespace FlexVerif.M4

theorem unq_succ_char (d : Nat) (c c2 : UInt8) (r : List UInt8)
    (h1 : ¬ (c = LB ∧ c2 = LB)) (h2 : ¬ (c = RB ∧ c2 = RB)) :
    unq (d + 1) (c :: c2 :: r) = c :: unq (d + 1) (c2 :: r) := by
  rw [unq, if_neg h1, if_neg h2]

theorem unq_one_close (r : List UInt8) : unq 1 (RB :: RB :: r) = unq 0 r := by
  rw [unq, if_neg (by decide), if_pos ⟨rfl, rfl⟩, if_pos rfl]

theorem unq_zero_open (r : List UInt8) : unq 0 (LB :: LB :: r) = unq 1 r := by
  rw [unq, if_pos ⟨rfl, rfl⟩]

theorem unq_zero_char (c c2 : UInt8) (r : List UInt8) (h1 : ¬ (c = LB ∧ c2 = LB)) (h2 : isIdent c = false) :
    unq 0 (c :: c2 :: r) = c :: unq 0 (c2 :: r) := by
  rw [unq, if_neg h1, if_neg (by simp [h2])]

theorem unq_zero_rb (r : List UInt8) : unq 0 (RB :: r) = RB :: unq 0 r := by
  cases r with
  | nil => rw [unq, unq]; rfl
  | cons c2 r => exact unq_zero_char RB c2 r (fun h => absurd h.1 (by decide)) (by decide)

/-- a byte in front of a closing `]]` is copied whatever it is: of `]]]` m4 takes the first two as
    the closing quote and copies the third, which comes to the same -/
theorem unq_one_cons_close (c : UInt8) (r : List UInt8) :
    unq 1 (c :: RB :: RB :: r) = c :: unq 1 (RB :: RB :: r) := by
  by_cases hc : c = RB
  · rw [hc, unq_one_close, unq_one_close, unq_zero_rb]
  · exact unq_succ_char 0 c RB _ (fun h => absurd h.2 (by decide)) (fun h => hc h.1)

theorem unq_zero_noop (c : UInt8) (r : List UInt8) (hc : isIdent c = false) :
    unq 0 (NOOP ++ c :: r) = unq 0 (c :: r) := by
  have hn : ¬ isIdent c = true := by simp [hc]
  have hw : (NOOP ++ c :: r).takeWhile isIdent = NOOP := by
    rw [List.takeWhile_append_of_pos (by decide), List.takeWhile_cons_of_neg hn, List.append_nil]
  have hd : (NOOP.tail ++ c :: r).dropWhile isIdent = c :: r := by
    rw [List.dropWhile_append_of_pos (by decide), List.dropWhile_cons_of_neg hn]
  simp only [NOOP, List.cons_append, List.nil_append, List.tail_cons] at hw hd ⊢
  rw [unq, if_neg (by decide), if_pos (by decide)]
  simp only [hw, hd, NOOP, if_true, List.nil_append]

/-- Escape sequences `qs` for `[[` and `qe` for `]]` that m4, inside quotes, turns back into the
    pair they stand for, also when a byte that does not pair with the replaced bracket precedes them. -/
structure Protects (qs qe : List UInt8) : Prop where
  lb : ∀ X, unq 1 (qs ++ X) = LB :: LB :: unq 1 X
  rb : ∀ X, unq 1 (qe ++ X) = RB :: RB :: unq 1 X
  cons_lb : ∀ c X, c ≠ LB → unq 1 (c :: (qs ++ X)) = c :: unq 1 (qs ++ X)
  cons_rb : ∀ c X, c ≠ RB → unq 1 (c :: (qe ++ X)) = c :: unq 1 (qe ++ X)

theorem Protects.cons_esc {qs qe : List UInt8} (P : Protects qs qe) (c c2 : UInt8) (r X : List UInt8)
    (h1 : ¬ (c = LB ∧ c2 = LB)) (h2 : ¬ (c = RB ∧ c2 = RB)) :
    unq 1 (c :: (esc qs qe (c2 :: r) ++ X)) = c :: unq 1 (esc qs qe (c2 :: r) ++ X) := by
  cases r with
  | nil => exact unq_succ_char 0 c c2 X h1 h2
  | cons c3 r =>
    rw [esc]
    split
    next h => rw [List.append_assoc, P.cons_lb c _ fun hc => h1 ⟨hc, h.1⟩]
    next =>
      split
      next h => rw [List.append_assoc, P.cons_rb c _ fun hc => h2 ⟨hc, h.1⟩]
      next => exact unq_succ_char 0 c c2 _ h1 h2

theorem Protects.unq_esc {qs qe : List UInt8} (P : Protects qs qe) (code tail : List UInt8) :
    unq 1 (esc qs qe code ++ RB :: RB :: tail) = code ++ unq 0 tail := by
  fun_induction esc qs qe code with
  | case1 => exact unq_one_close tail
  | case2 c => rw [List.cons_append, List.nil_append, unq_one_cons_close, unq_one_close]; rfl
  | case3 c c2 r h ih => rw [List.append_assoc, P.lb, ih, h.1, h.2]; rfl
  | case4 c c2 r h1 h ih => rw [List.append_assoc, P.rb, ih, h.1, h.2]; rfl
  | case5 c c2 r h1 h2 ih => rw [List.cons_append, P.cons_esc c c2 r _ h1 h2, ih]; rfl

theorem unq_QS_A (X : List UInt8) : unq 1 (QS_A ++ X) = LB :: LB :: unq 1 X := by
  simp only [QS_A, List.cons_append, List.nil_append]
  rw [unq_succ_char 0 LB RB _ (by decide) (by decide), unq_one_close, unq_zero_open,
    unq_succ_char 0 LB RB _ (by decide) (by decide), unq_one_close, unq_zero_open]

theorem unq_QE_A (X : List UInt8) : unq 1 (QE_A ++ X) = RB :: RB :: unq 1 X := by
  simp only [QE_A, List.cons_append, List.nil_append]
  rw [unq_one_close, unq_zero_rb, unq_zero_open, unq_one_close, unq_zero_rb, unq_zero_open]

theorem protects_A : Protects QS_A QE_A where
  lb := unq_QS_A
  rb := unq_QE_A
  cons_lb c X hc := unq_succ_char 0 c LB _ (fun h => hc h.1) (fun h => absurd h.2 (by decide))
  cons_rb c X hc := unq_succ_char 0 c RB _ (fun h => absurd h.2 (by decide)) (fun h => hc h.1)

/-- **Scheme A is the identity after m4**: for every byte string `code` (whatever it contains:
    `[[`, `]]`, `]]]`, m4 macro names, `$1`, backquotes, …) the text `[[` escA(code) `]]` followed
    by anything is expanded by m4 to exactly `code` followed by the expansion of what follows. -/
theorem unq_escA (code tail : List UInt8) :
    unq 1 (escA code ++ RB :: RB :: tail) = code ++ unq 0 tail := protects_A.unq_esc code tail

/-- non-vacuity / example: the m4 quote sequences themselves survive -/
example : unq 1 (escA [LB, LB, RB, RB, RB] ++ [RB, RB]) = [LB, LB, RB, RB, RB] := by
  have := unq_escA [LB, LB, RB, RB, RB] []
  simpa [unq] using this

theorem unq_zero_lb_noop (r : List UInt8) : unq 0 (LB :: (NOOP ++ r)) = LB :: unq 0 (NOOP ++ r) :=
  unq_zero_char LB _ _ (fun h => absurd h.2 (by decide)) (by decide)

theorem unq_zero_rb_noop (r : List UInt8) : unq 0 (RB :: (NOOP ++ r)) = RB :: unq 0 (NOOP ++ r) :=
  unq_zero_rb _

theorem unq_QS_B (X : List UInt8) : unq 1 (QS_B ++ X) = LB :: LB :: unq 1 X := by
  simp only [QS_B, List.append_assoc, List.cons_append, List.nil_append]
  rw [unq_one_close, unq_zero_noop LB _ (by decide), unq_zero_lb_noop, unq_zero_noop LB _ (by decide),
    unq_zero_lb_noop, unq_zero_noop LB _ (by decide), unq_zero_open]

theorem unq_QE_B (X : List UInt8) : unq 1 (QE_B ++ X) = RB :: RB :: unq 1 X := by
  simp only [QE_B, List.append_assoc, List.cons_append, List.nil_append]
  rw [unq_one_close, unq_zero_noop RB _ (by decide), unq_zero_rb_noop, unq_zero_noop RB _ (by decide),
    unq_zero_rb_noop, unq_zero_noop LB _ (by decide), unq_zero_open]

/-- both escapes of scheme B begin with `]]`, in front of which any byte is copied -/
theorem protects_B : Protects QS_B QE_B where
  lb := unq_QS_B
  rb := unq_QE_B
  cons_lb c _ _ := unq_one_cons_close c _
  cons_rb c _ _ := unq_one_cons_close c _

/-- **Scheme B is the identity after m4** as well. -/
theorem unq_escB (code tail : List UInt8) :
    unq 1 (escB code ++ RB :: RB :: tail) = code ++ unq 0 tail := protects_B.unq_esc code tail

end FlexVerif.M4
