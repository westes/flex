import FlexVerif.Spec.Rules
import FlexVerif.Spec.ReLemmas
/-
  Validator/SpecAuto.lean — the executable specification automaton.

  A state is a finite set (sorted duplicate-free list) of tagged residual regexes.  Tag `2*i`
  stands for "the full pattern of rule i", tag `2*i+1` for "the head of variable-trailing-
  context rule i".  `specAuto_tags` says the tags whose residual is nullable after reading `w`
  are exactly the rules the denotational specification makes match `w`.
-/
namespace FlexVerif

abbrev Item := Nat × Re
abbrev SState := List Item

def dedupAdj {α : Type} [DecidableEq α] : List α → List α
  | [] => []
  | [a] => [a]
  | a :: b :: l => if a = b then dedupAdj (b :: l) else a :: dedupAdj (b :: l)

theorem mem_dedupAdj {α : Type} [DecidableEq α] {x : α} {l : List α} :
    x ∈ dedupAdj l ↔ x ∈ l := by
  fun_induction dedupAdj l <;> simp_all

instance : Ord Item := lexOrd

def itemLe (a b : Item) : Bool := compare a b != Ordering.gt

def normItems (l : List Item) : SState := dedupAdj (l.mergeSort itemLe)

theorem mem_normItems {x : Item} {l : List Item} : x ∈ normItems l ↔ x ∈ l := by
  simp [normItems, mem_dedupAdj]

namespace SState

def step (c : Byte) (S : SState) : SState :=
  normItems (S.flatMap fun it => (Re.pderiv c it.2).map fun p => (it.1, p))

def run (S : SState) (w : List Byte) : SState := w.foldl (fun S c => step c S) S

theorem run_cons (q : SState) (c : UInt8) (w : List UInt8) : q.run (c :: w) = (q.step c).run w := rfl

def TagLang (S : SState) (t : Nat) (v : List Byte) : Prop := ∃ p, (t, p) ∈ S ∧ p.Matches v

theorem step_lang (c : Byte) (S : SState) (t : Nat) (v : List Byte) :
    TagLang (step c S) t v ↔ TagLang S t (c :: v) := by
  unfold TagLang step
  simp only [mem_normItems, List.mem_flatMap, List.mem_map, Prod.mk.injEq, ← Re.pderiv_correct]
  constructor
  · rintro ⟨p, ⟨it, hit, q, hq, rfl, rfl⟩, hm⟩
    exact ⟨it.2, hit, q, hq, hm⟩
  · rintro ⟨p, hp, q, hq, hm⟩
    exact ⟨q, ⟨(t, p), hp, q, hq, rfl, rfl⟩, hm⟩

theorem run_lang (S : SState) (w : List Byte) (t : Nat) (v : List Byte) :
    TagLang (run S w) t v ↔ TagLang S t (w ++ v) := by
  induction w generalizing S with
  | nil => exact Iff.rfl
  | cons c w ih => rw [run_cons, ih, step_lang]; rfl

def setsWithin (sets : List ByteSet) (S : SState) : Bool :=
  S.all fun it => it.2.clsSets.all fun s => sets.contains s

theorem step_congr (sets : List ByteSet) (S : SState) (c c' : Byte)
    (hS : setsWithin sets S = true) (hc : sets.map (·.mem c) = sets.map (·.mem c')) :
    step c S = step c' S := by
  unfold step
  rw [List.flatMap_def, List.flatMap_def]
  congr 2
  refine List.map_congr_left fun it hit => ?_
  rw [Re.pderiv_congr c c' it.2]
  intro s hs
  simp only [setsWithin, List.all_eq_true, List.contains_iff_mem] at hS
  exact List.map_inj_left.mp hc s (hS it hit s hs)

def accTags (S : SState) : List Nat :=
  dedupAdj (((S.filter fun it => it.2.nullable).map fun it => it.1).mergeSort (fun a b => a ≤ b))

theorem mem_accTags {S : SState} {t : Nat} : t ∈ accTags S ↔ TagLang S t [] := by
  unfold accTags TagLang
  simp only [mem_dedupAdj, List.mem_mergeSort, List.mem_map, List.mem_filter, Re.nullable_iff]
  constructor
  · rintro ⟨it, ⟨hit, hn⟩, rfl⟩
    exact ⟨it.2, hit, hn⟩
  · rintro ⟨p, hp, hm⟩
    exact ⟨(t, p), ⟨hp, hm⟩, rfl⟩

theorem mem_accTags_run {S : SState} {w : List Byte} {t : Nat} :
    t ∈ accTags (run S w) ↔ TagLang S t w := by
  rw [mem_accTags, run_lang, List.append_nil]

end SState

theorem eq_two_mul {t i : Nat} : t = 2 * i ↔ t % 2 = 0 ∧ t / 2 = i := by omega

theorem eq_two_mul_succ {t i : Nat} : t = 2 * i + 1 ↔ t % 2 = 1 ∧ t / 2 = i := by omega

namespace RuleSet

def ruleItems (S : RuleSet) (sc : Nat) (atBol : Bool) (rk : Rule × Nat) : List Item :=
  if S.activeIn sc atBol rk.1 then
    (2 * (rk.2 + 1), rk.1.full) :: (if rk.1.varTrail then [(2 * (rk.2 + 1) + 1, rk.1.head)] else [])
  else []

def startState (S : RuleSet) (sc : Nat) (atBol : Bool) : SState :=
  normItems (S.rules.zipIdx.flatMap (S.ruleItems sc atBol))

theorem mem_startState {S : RuleSet} {sc : Nat} {atBol : Bool} {it : Item} :
    it ∈ S.startState sc atBol ↔
      ∃ r i, S.rules[i - 1]? = some r ∧ 1 ≤ i ∧ S.activeIn sc atBol r = true ∧
        (it = (2 * i, r.full) ∨ r.varTrail = true ∧ it = (2 * i + 1, r.head)) := by
  simp only [startState, mem_normItems, List.mem_flatMap, Prod.exists,
    List.mem_zipIdx_iff_getElem?, ruleItems, List.mem_ite_nil_right, List.mem_cons,
    List.not_mem_nil, or_false]
  constructor
  · rintro ⟨r, k, hr, h⟩
    exact ⟨r, k + 1, hr, Nat.succ_pos k, h⟩
  · rintro ⟨r, i, hr, hi, h⟩
    refine ⟨r, i - 1, hr, ?_⟩
    rwa [Nat.sub_add_cancel hi]

/-- **The specification automaton computes the denotational specification**: after reading `w`
    from the start state for `(sc, atBol)`, the accepting tags are exactly the active rules whose
    full pattern matches `w` (tag `2i`) and the variable-trailing-context rules whose head
    matches `w` (tag `2i+1`). -/
theorem specAuto_tags (S : RuleSet) (sc : Nat) (atBol : Bool) (w : List Byte) (t : Nat) :
    t ∈ ((S.startState sc atBol).run w).accTags ↔
      (t % 2 = 0 ∧ S.RuleMatches sc atBol (t / 2) w) ∨
      (t % 2 = 1 ∧ S.HeadMatches sc atBol (t / 2) w) := by
  simp only [SState.mem_accTags_run, SState.TagLang, RuleMatches, HeadMatches, mem_startState,
    Prod.mk.injEq, eq_two_mul, eq_two_mul_succ]
  constructor
  · rintro ⟨p, ⟨r, i, hr, hi, ha, ⟨⟨h0, rfl⟩, rfl⟩ | ⟨hv, ⟨h1, rfl⟩, rfl⟩⟩, hm⟩
    · exact .inl ⟨h0, r, hr, hi, ha, hm⟩
    · exact .inr ⟨h1, r, hr, hi, ha, hv, hm⟩
  · rintro (⟨ht, r, hr, hi, ha, hm⟩ | ⟨ht, r, hr, hi, ha, hv, hm⟩)
    · exact ⟨_, ⟨r, _, hr, hi, ha, .inl ⟨⟨ht, rfl⟩, rfl⟩⟩, hm⟩
    · exact ⟨_, ⟨r, _, hr, hi, ha, .inr ⟨hv, ⟨ht, rfl⟩, rfl⟩⟩, hm⟩

theorem mem_accTags_full (S : RuleSet) (sc : Nat) (atBol : Bool) (w : List Byte) (i : Nat) :
    2 * i ∈ ((S.startState sc atBol).run w).accTags ↔ S.RuleMatches sc atBol i w := by
  simp [specAuto_tags]

end RuleSet

/-- the smallest even tag, halved: of a state's accepting tags, the first rule in file order -/
def firstFull : List Nat → Option Nat
  | [] => none
  | t :: ts =>
    match firstFull ts with
    | none => if t % 2 = 0 then some (t / 2) else none
    | some j => if t % 2 = 0 ∧ t / 2 < j then some (t / 2) else some j

theorem firstFull_spec (l : List Nat) :
    match firstFull l with
    | none => ∀ j, 2 * j ∉ l
    | some i => 2 * i ∈ l ∧ ∀ j, j < i → 2 * j ∉ l := by
  induction l with
  | nil => simp [firstFull]
  | cons t ts ih =>
    simp only [firstFull, List.mem_cons, not_or, eq_comm (b := t), eq_two_mul]
    revert ih
    cases firstFull ts with
    | none =>
      intro ih
      by_cases ht : t % 2 = 0
      · rw [if_pos ht]
        exact ⟨.inl ⟨ht, rfl⟩, fun j hj => ⟨fun h => Nat.ne_of_gt hj h.2, ih j⟩⟩
      · rw [if_neg ht]
        exact fun j => ⟨fun h => ht h.1, ih j⟩
    | some i =>
      intro ih
      dsimp only
      by_cases ht : t % 2 = 0 ∧ t / 2 < i
      · rw [if_pos ht]
        exact ⟨.inl ⟨ht.1, rfl⟩, fun j hj => ⟨fun h => Nat.ne_of_gt hj h.2, ih.2 j (Nat.lt_trans hj ht.2)⟩⟩
      · rw [if_neg ht]
        exact ⟨.inr ih.1, fun j hj => ⟨fun h => ht ⟨h.1, h.2 ▸ hj⟩, ih.2 j hj⟩⟩

/-- **First-rule label**: the label the specification automaton gives a word is the rule the
    documentation selects for it. -/
theorem RuleSet.specAuto_first (S : RuleSet) (sc : Nat) (atBol : Bool) (w : List Byte) :
    S.FirstRule sc atBol w (firstFull ((S.startState sc atBol).run w).accTags) := by
  have h := firstFull_spec ((S.startState sc atBol).run w).accTags
  simp only [S.mem_accTags_full] at h
  exact h

end FlexVerif
