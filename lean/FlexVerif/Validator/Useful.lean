import FlexVerif.Validator.Validate
/-
  Validator/Useful.lean — which rules can ever be the selected rule ("rule cannot be matched").

  `reach` explores the specification automaton (unverified); its result is a certificate: a list
  of states, each with a witness (start condition, line-start flag, word) that reaches it.
  `certOK` re-checks the certificate: a checked one contains exactly the states reachable on some
  input (`cert_sound`, `cert_complete`), so rule `i` occurs as a first-rule label in it iff some
  input in some start condition makes `i` the selected rule (`useful_exact`).
-/
namespace FlexVerif

structure ReachEntry where
  state : SState
  sc : Nat
  bol : Bool
  word : List UInt8
deriving Inhabited

def certOK (S : RuleSet) (csize : Nat) (classes : List (UInt8 × List UInt8)) (C : List ReachEntry) : Bool :=
  let alpha := bytesBelow csize
  let sets := S.allSets
  let H : Std.HashSet SState := Std.HashSet.ofList (C.map (·.state))
  classesOK sets classes &&
  (alpha.all fun c => classes.any fun kc => kc.2.contains c) &&
  (C.all fun e => decide (e.sc < S.nsc) && (e.word.all fun c => decide (c.toNat < csize)) &&
      decide ((S.startState e.sc e.bol).run e.word = e.state)) &&
  ((List.range S.nsc).all fun sc => H.contains (S.startState sc false) && H.contains (S.startState sc true)) &&
  (C.all fun e => SState.setsWithin sets e.state && classes.all fun kc => H.contains (e.state.step kc.1))

theorem SState.run_append (q : SState) (u v : List UInt8) : q.run (u ++ v) = (q.run u).run v :=
  List.foldl_append

theorem cert_complete (S : RuleSet) (csize : Nat) (classes : List (UInt8 × List UInt8)) (C : List ReachEntry)
    (h : certOK S csize classes C = true) (sc : Nat) (hsc : sc < S.nsc) (bol : Bool) (w : List UInt8)
    (hw : ∀ c ∈ w, c.toNat < csize) :
    ∃ e ∈ C, e.state = (S.startState sc bol).run w := by
  simp only [certOK, Bool.and_eq_true, List.all_eq_true, List.any_eq_true, decide_eq_true_eq,
    Std.HashSet.contains_ofList, List.contains_iff_mem, List.mem_map, List.mem_range] at h
  obtain ⟨⟨⟨⟨hcls, hcover⟩, _⟩, hstart⟩, hclosed⟩ := h
  obtain ⟨e, he, hs⟩ : ∃ e ∈ C, e.state = S.startState sc bol := by
    cases bol
    · exact (hstart sc hsc).1
    · exact (hstart sc hsc).2
  rw [← hs]
  clear hs
  induction w generalizing e with
  | nil => exact ⟨e, he, rfl⟩
  | cons c w ih =>
    obtain ⟨kc, hkc, hc⟩ := hcover c (mem_bytesBelow (hw c (List.mem_cons_self ..)))
    obtain ⟨hwithin, hcl⟩ := hclosed e he
    obtain ⟨e', he', hs'⟩ := hcl kc hkc
    rw [SState.run_cons, SState.step_class hcls hwithin hkc hc, ← hs']
    exact ih (fun d hd => hw d (List.mem_cons_of_mem _ hd)) e' he'

theorem cert_sound (S : RuleSet) (csize : Nat) (classes : List (UInt8 × List UInt8)) (C : List ReachEntry)
    (h : certOK S csize classes C = true) (e : ReachEntry) (he : e ∈ C) :
    e.sc < S.nsc ∧ (∀ c ∈ e.word, c.toNat < csize) ∧ (S.startState e.sc e.bol).run e.word = e.state := by
  simp only [certOK, Bool.and_eq_true, List.all_eq_true, decide_eq_true_eq] at h
  obtain ⟨⟨⟨_, hwit⟩, _⟩, _⟩ := h
  obtain ⟨⟨h1, h2⟩, h3⟩ := hwit e he
  exact ⟨h1, h2, h3⟩

def usefulRules (C : List ReachEntry) : List Nat :=
  (C.filterMap fun e => firstFull e.state.accTags).eraseDups

/-- **Exactness of "rule can be matched"**: with a checked certificate, rule `i` is listed as
    useful iff some input (in some start condition and line-start state) makes it the selected
    rule, i.e. the first active rule matching that input. -/
theorem useful_exact (S : RuleSet) (csize : Nat) (classes : List (UInt8 × List UInt8)) (C : List ReachEntry)
    (h : certOK S csize classes C = true) (i : Nat) :
    i ∈ usefulRules C ↔
      ∃ sc, sc < S.nsc ∧ ∃ bol w, (∀ c ∈ w, c.toNat < csize) ∧ S.FirstRule sc bol w (some i) := by
  unfold usefulRules
  rw [List.mem_eraseDups, List.mem_filterMap]
  constructor
  · rintro ⟨e, he, hl⟩
    obtain ⟨h1, h2, h3⟩ := cert_sound S csize classes C h e he
    refine ⟨e.sc, h1, e.bol, e.word, h2, ?_⟩
    have := S.specAuto_first e.sc e.bol e.word
    rw [h3, hl] at this
    exact this
  · rintro ⟨sc, hsc, bol, w, hw, hf⟩
    obtain ⟨e, he, hs⟩ := cert_complete S csize classes C h sc hsc bol w hw
    refine ⟨e, he, ?_⟩
    -- the label the automaton computes is a first rule, and there is only one
    have hspec := S.specAuto_first sc bol w
    rw [hs]
    cases hl : firstFull ((S.startState sc bol).run w).accTags with
    | none => rw [hl] at hspec; exact absurd hf.1 (hspec i)
    | some j =>
      rw [hl] at hspec
      exact congrArg some (Nat.le_antisymm (Nat.le_of_not_lt fun hlt => hspec.2 i hlt hf.1)
        (Nat.le_of_not_lt fun hlt => hf.2 j hlt hspec.1))

partial def reach (S : RuleSet) (classes : List (UInt8 × List UInt8)) (budget : Nat) : List ReachEntry × Bool := Id.run do
  let mut seen : Std.HashSet SState := {}
  let mut queue : Array ReachEntry := #[]
  for sc in List.range S.nsc do
    for bol in [false, true] do
      let q := S.startState sc bol
      if !seen.contains q then
        seen := seen.insert q
        queue := queue.push { state := q, sc := sc, bol := bol, word := [] }
  let mut i := 0
  let mut exhausted := false
  while i < queue.size do
    if queue.size > budget then
      exhausted := true
      break
    let e := queue[i]!
    for kc in classes do
      let q := e.state.step kc.1
      if !seen.contains q then
        seen := seen.insert q
        queue := queue.push { state := q, sc := e.sc, bol := e.bol, word := e.word ++ [kc.1] }
    i := i + 1
  return (queue.toList, exhausted)

end FlexVerif
