import FlexVerif.Validator.SpecAuto
import FlexVerif.Validator.Bisim
import FlexVerif.Validator.Tables
/-
  Validator/Validate.lean — translation validation of the emitted automaton.

  `validate S T` decides (soundly) whether the automaton flex emitted (`T`, through the decoders
  of `Tables.lean`) gives, on every byte string and from every start state, the accepting
  information the specification `S` prescribes.
-/
namespace FlexVerif

def YY_TRAILING_MASK : Nat := 0x2000
def YY_TRAILING_HEAD_MASK : Nat := 0x4000

/-- the label the specification prescribes for a set of accepting tags, in the encoding of the
    emitted tables: without REJECT the first rule; with REJECT the `yy_acclist` slice (full
    matches in rule order, variable-trailing-context rules flagged, then head matches). -/
def specLabel (S : RuleSet) (reject : Bool) (tags : List Nat) : Option (List Int) :=
  if reject then
    let fulls := (tags.filter fun t => t % 2 = 0).map fun t =>
      let i := t / 2
      match S.rules[i - 1]? with
      | some r => if r.varTrail then ((i ||| YY_TRAILING_MASK : Nat) : Int) else (i : Int)
      | none => (i : Int)
    let heads := (tags.filter fun t => t % 2 = 1).map fun t => (((t / 2) ||| YY_TRAILING_HEAD_MASK : Nat) : Int)
    some (fulls ++ heads)
  else
    match firstFull tags with
    | none => some []
    | some i => some [(i : Int)]

def specAuto (S : RuleSet) (reject : Bool) : Auto SState (Option (List Int)) where
  step := fun q c => q.step c
  label := fun q => specLabel S reject q.accTags

def tblAuto (T : Tables) : Auto DState (Option (List Int)) where
  step := T.step
  label := T.label

theorem specAuto_run (S : RuleSet) (reject : Bool) (q : SState) (w : List Byte) :
    (specAuto S reject).run q w = q.run w := rfl

def startPairs (S : RuleSet) (T : Tables) : List (DState × SState) :=
  (List.range S.nsc).flatMap fun sc =>
    [(T.startState sc false, S.startState sc false), (T.startState sc true, S.startState sc true)]

structure Verdict where
  ok : Bool
  pairs : Nat
  exhausted : Bool
  cex : Option (List UInt8 × DState × SState)
deriving Inhabited

def RuleSet.allSets (S : RuleSet) : List ByteSet :=
  (S.rules.flatMap fun r => r.full.clsSets ++ r.head.clsSets).eraseDups

/-- group the alphabet by signature w.r.t. `sets` (unverified; re-checked by `classesOK`) -/
def groupBySig (sets : List ByteSet) (alpha : List UInt8) : List (UInt8 × List UInt8) :=
  let m : Std.HashMap (List Bool) (List UInt8) :=
    alpha.foldl (fun m c =>
      let k := sets.map (·.mem c)
      m.insert k (c :: (m.getD k []))) {}
  m.toList.filterMap fun (_, cs) =>
    match cs.reverse with
    | [] => none
    | k :: rest => some (k, k :: rest)

def classesOK (sets : List ByteSet) (classes : List (UInt8 × List UInt8)) : Bool :=
  classes.all fun kc => kc.2.all fun c => sets.map (·.mem c) == sets.map (·.mem kc.1)

theorem SState.step_class {sets : List ByteSet} {classes : List (UInt8 × List UInt8)}
    (hcls : classesOK sets classes = true) {q : SState} (hq : q.setsWithin sets = true)
    {kc : UInt8 × List UInt8} (hkc : kc ∈ classes) {c : UInt8} (hc : c ∈ kc.2) :
    q.step c = q.step kc.1 := by
  simp only [classesOK, List.all_eq_true, beq_iff_eq] at hcls
  exact SState.step_congr sets q c kc.1 hq (hcls kc hkc c hc)

def validate (S : RuleSet) (T : Tables) (budget : Nat) : Verdict :=
  let A := tblAuto T
  let B := specAuto S T.reject
  let alpha := bytesBelow T.csize
  let sets := S.allSets
  let classes := groupBySig sets alpha
  let starts := startPairs S T
  let r := explore A B classes starts budget
  let R := r.rel.toList
  let ok := r.cex.isNone && !r.exhausted && classesOK sets classes &&
    (R.all fun p => SState.setsWithin sets p.2) &&
    closedBy A B alpha classes R && starts.all fun p => R.contains p
  { ok := ok, pairs := r.rel.size, exhausted := r.exhausted, cex := r.cex }

/-- **Soundness of the validator** (for all inputs): if `validate` accepts, then from every
    start condition and line-start state, after every byte string `w` (bytes below the
    character-set size), the emitted automaton's accepting information equals what the
    specification automaton prescribes. -/
theorem validate_sound (S : RuleSet) (T : Tables) (budget : Nat)
    (h : (validate S T budget).ok = true)
    (sc : Nat) (hsc : sc < S.nsc) (bol : Bool) (w : List Byte)
    (hw : ∀ c ∈ w, c.toNat < T.csize) :
    T.label ((tblAuto T).run (T.startState sc bol) w) =
      specLabel S T.reject ((S.startState sc bol).run w).accTags := by
  simp only [validate, Bool.and_eq_true, List.all_eq_true, List.contains_iff_mem] at h
  obtain ⟨⟨⟨⟨⟨_, _⟩, hcls⟩, hwithin⟩, hcl⟩, hst⟩ := h
  have hmem := hst (T.startState sc bol, S.startState sc bol)
    (List.mem_flatMap.mpr ⟨sc, List.mem_range.mpr hsc, by cases bol <;> simp⟩)
  have := closedBy_sound (tblAuto T) (specAuto S T.reject) (bytesBelow T.csize) _ _ hcl
    (fun p hp kc hkc c hc => SState.step_class hcls (hwithin p hp) hkc hc) _ _ hmem w
    fun c hc => mem_bytesBelow (hw c hc)
  rwa [specAuto_run] at this

/-- Corollary for scanners without REJECT: the rule number the emitted tables report for `w`
    is the rule the documentation selects (first active rule whose pattern matches `w`);
    `0`/jam when no rule matches. -/
theorem validate_first_rule (S : RuleSet) (T : Tables) (budget : Nat)
    (h : (validate S T budget).ok = true) (hr : T.reject = false)
    (sc : Nat) (hsc : sc < S.nsc) (bol : Bool) (w : List Byte)
    (hw : ∀ c ∈ w, c.toNat < T.csize) :
    ∃ l, S.FirstRule sc bol w l ∧
      T.label ((tblAuto T).run (T.startState sc bol) w) =
        some (match l with | none => [] | some i => [(i : Int)]) := by
  refine ⟨firstFull ((S.startState sc bol).run w).accTags, S.specAuto_first sc bol w, ?_⟩
  rw [validate_sound S T budget h sc hsc bol w hw, specLabel, hr]
  simp only [Bool.false_eq_true, if_false]
  cases firstFull ((S.startState sc bol).run w).accTags <;> rfl

end FlexVerif
