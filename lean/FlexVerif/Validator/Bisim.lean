import Std.Data.HashSet
import Std.Data.HashMap
/-
  Validator/Bisim.lean — a bisimulation checker and its soundness theorem.

  `explore` is an (unverified) worklist search producing either a candidate relation or a
  distinguishing word.  `closedBy` re-checks a candidate relation, one successor of `B` per byte
  class; it is the check `validate` runs.  `closedBy_sound` says that a relation passing it
  relates only label-equivalent states: the two automata give the same label on **every** word
  over the alphabet.  `closed`/`closed_sound` are the same check and theorem without byte
  classes.  Soundness does not depend on `explore`.
-/
namespace FlexVerif

abbrev Byte' := UInt8

structure Auto (σ : Type) (L : Type) where
  step : σ → UInt8 → σ
  label : σ → L

namespace Auto
def run {σ L : Type} (A : Auto σ L) (s : σ) (w : List UInt8) : σ := w.foldl A.step s
@[simp] theorem run_nil {σ L : Type} (A : Auto σ L) (s : σ) : A.run s [] = s := rfl
@[simp] theorem run_cons {σ L : Type} (A : Auto σ L) (s : σ) (c : UInt8) (w : List UInt8) :
    A.run s (c :: w) = A.run (A.step s c) w := rfl

theorem bisim {σ τ L : Type} (A : Auto σ L) (B : Auto τ L) (alphabet : List UInt8) (R : List (σ × τ))
    (hR : ∀ p ∈ R, A.label p.1 = B.label p.2 ∧ ∀ c ∈ alphabet, (A.step p.1 c, B.step p.2 c) ∈ R)
    {a : σ} {b : τ} (hab : (a, b) ∈ R) (w : List UInt8) (hw : ∀ c ∈ w, c ∈ alphabet) :
    A.label (A.run a w) = B.label (B.run b w) := by
  induction w generalizing a b with
  | nil => exact (hR _ hab).1
  | cons c w ih =>
    exact ih ((hR _ hab).2 c (hw c (List.mem_cons_self ..))) fun d hd => hw d (List.mem_cons_of_mem _ hd)
end Auto

section
variable {σ τ L : Type} [BEq σ] [Hashable σ] [LawfulBEq σ] [BEq τ] [Hashable τ] [LawfulBEq τ]
  [DecidableEq L]

def closed (A : Auto σ L) (B : Auto τ L) (alphabet : List UInt8) (R : List (σ × τ)) : Bool :=
  let H : Std.HashSet (σ × τ) := Std.HashSet.ofList R
  R.all fun p =>
    decide (A.label p.1 = B.label p.2) &&
      alphabet.all fun c => H.contains (A.step p.1 c, B.step p.2 c)

/-- **Soundness of the checker.**  If `R` is closed then any related pair of states gives equal
    labels after every word over the alphabet. -/
theorem closed_sound (A : Auto σ L) (B : Auto τ L) (alphabet : List UInt8) (R : List (σ × τ))
    (h : closed A B alphabet R = true) (a : σ) (b : τ) (hab : (a, b) ∈ R)
    (w : List UInt8) (hw : ∀ c ∈ w, c ∈ alphabet) :
    A.label (A.run a w) = B.label (B.run b w) := by
  simp only [closed, List.all_eq_true, Bool.and_eq_true, decide_eq_true_eq,
    Std.HashSet.contains_ofList, List.contains_iff_mem] at h
  exact Auto.bisim A B alphabet R h hab w hw

/-- Like `closed`, but the successor on the `B` side is computed once per byte class
    `(representative, members)`.  Sound when `B` cannot tell the members of a class from its
    representative (hypothesis `hB` of `closedBy_sound`). -/
def closedBy (A : Auto σ L) (B : Auto τ L) (alphabet : List UInt8)
    (classes : List (UInt8 × List UInt8)) (R : List (σ × τ)) : Bool :=
  let H : Std.HashSet (σ × τ) := Std.HashSet.ofList R
  (alphabet.all fun c => classes.any fun kc => kc.2.contains c) &&
  R.all fun p =>
    decide (A.label p.1 = B.label p.2) &&
      classes.all fun kc =>
        let q' := B.step p.2 kc.1
        kc.2.all fun c => H.contains (A.step p.1 c, q')

theorem closedBy_sound (A : Auto σ L) (B : Auto τ L) (alphabet : List UInt8)
    (classes : List (UInt8 × List UInt8)) (R : List (σ × τ))
    (h : closedBy A B alphabet classes R = true)
    (hB : ∀ p ∈ R, ∀ kc ∈ classes, ∀ c ∈ kc.2, B.step p.2 c = B.step p.2 kc.1)
    (a : σ) (b : τ) (hab : (a, b) ∈ R)
    (w : List UInt8) (hw : ∀ c ∈ w, c ∈ alphabet) :
    A.label (A.run a w) = B.label (B.run b w) := by
  simp only [closedBy, Bool.and_eq_true, List.all_eq_true, List.any_eq_true, decide_eq_true_eq,
    Std.HashSet.contains_ofList, List.contains_iff_mem] at h
  obtain ⟨hcover, hR⟩ := h
  refine Auto.bisim A B alphabet R (fun p hp => ⟨(hR p hp).1, fun c hc => ?_⟩) hab w hw
  obtain ⟨kc, hkc, hc'⟩ := hcover c hc
  rw [hB p hp kc hkc c hc']
  exact (hR p hp).2 kc hkc c hc'

end

def bytesBelow (n : Nat) : List UInt8 := (List.range n).map UInt8.ofNat

theorem mem_bytesBelow {n : Nat} {c : UInt8} (h : c.toNat < n) : c ∈ bytesBelow n := by
  unfold bytesBelow
  rw [List.mem_map]
  exact ⟨c.toNat, by simp [h], by simp⟩

section
variable {σ τ L : Type} [BEq σ] [Hashable σ] [BEq τ] [Hashable τ] [DecidableEq L] [Inhabited σ] [Inhabited τ]

structure ExploreResult (σ τ : Type) where
  rel : Array (σ × τ)
  /-- a word on which the labels differ, with the pair of states reached -/
  cex : Option (List UInt8 × σ × τ)
  exhausted : Bool     -- pair budget hit: the relation is incomplete

/-- breadth-first product exploration from the given start pairs.  Each queue entry carries
    the index of its parent and the byte that led to it, so a shortest distinguishing word can
    be reconstructed. -/
partial def explore (A : Auto σ L) (B : Auto τ L) (classes : List (UInt8 × List UInt8))
    (starts : List (σ × τ)) (budget : Nat) : ExploreResult σ τ := Id.run do
  let mut seen : Std.HashSet (σ × τ) := {}
  let mut queue : Array (σ × τ) := #[]
  let mut parent : Array (Nat × UInt8) := #[]
  for p in starts do
    if !seen.contains p then
      seen := seen.insert p
      queue := queue.push p
      parent := parent.push (0, 0)
  let nstarts := queue.size
  let mut i := 0
  let mut cex : Option (List UInt8 × σ × τ) := none
  let mut exhausted := false
  while i < queue.size do
    let p := queue[i]!
    if A.label p.1 ≠ B.label p.2 then
      let mut w : List UInt8 := []
      let mut j := i
      while j ≥ nstarts do
        let (pj, c) := parent[j]!
        w := c :: w
        j := pj
      cex := some (w, p.1, p.2)
      break
    if queue.size > budget then
      exhausted := true
      break
    for kc in classes do
      let qb := B.step p.2 kc.1
      for c in kc.2 do
        let q := (A.step p.1 c, qb)
        if !seen.contains q then
          seen := seen.insert q
          queue := queue.push q
          parent := parent.push (i, c)
    i := i + 1
  return { rel := queue, cex := cex, exhausted := exhausted }

end

end FlexVerif
