import FlexVerif.Ser.Codec
/-
  Ser/CodecProofs.lean — round trip, 64-bit alignment, look-up by name in concatenated files,
  failure on every truncation and on a wrong magic number, for the serialized-tables codec.

  Each reader has a lemma for what the writer wrote (followed by anything, it returns what was
  written and leaves what followed: `rd_be`, `dropExact_left`, `rdElems_enc`, `rdTblHdr_enc`,
  `rdTblBody_enc`, `decTbl_encTbl`, `decTbls_enc`, `decHdr_enc`, `decSet_encSet`) and a lemma
  `*_append` (a read that succeeds succeeds the same way whatever is appended to its input).  The
  round trip is the former for `decSet`; a prefix that loaded would, by the latter, make the whole
  file load with the cut-off part left over.
-/
namespace FlexVerif.Ser

theorem be_length (n v : Nat) : (be n v).length = n := by
  induction n generalizing v with
  | zero => rfl
  | succ n ih => simp [be, ih]

theorem rd_be (n v : Nat) (rest : List UInt8) (h : v < 256 ^ n) :
    rd n (be n v ++ rest) = some (v, rest) := by
  induction n generalizing v with
  | zero => simp at h; subst h; rfl
  | succ n ih =>
    have hp : 0 < 256 ^ n := Nat.pow_pos (by decide)
    have hd : v / 256 ^ n < 256 := (Nat.div_lt_iff_lt_mul hp).2 (by rwa [Nat.pow_succ, Nat.mul_comm] at h)
    simp only [be, List.cons_append, rd, ih _ (Nat.mod_lt _ hp), UInt8.toNat_ofNat', Nat.reducePow,
      Nat.mod_eq_of_lt hd, Nat.div_add_mod']

theorem rd_append {n : Nat} {bs r x : List UInt8} {v : Nat} :
    rd n bs = some (v, r) → rd n (bs ++ x) = some (v, r ++ x) := by
  fun_induction rd n bs generalizing v with
  | case1 => rintro ⟨⟩; rfl
  | case3 n b bs v' r' h2 ih => rintro ⟨⟩; simp only [List.cons_append, rd, ih h2]
  | _ => nofun

theorem padLen_mod (len : Nat) : (len + padLen len) % 8 = 0 := by
  unfold padLen; omega

theorem padLen_lt (len : Nat) : padLen len < 8 := Nat.mod_lt _ (by decide)

theorem zeros_length (n : Nat) : (zeros n).length = n := List.length_replicate

theorem dropExact_left {n : Nat} {u : List UInt8} (h : u.length = n) (rest : List UInt8) :
    dropExact n (u ++ rest) = some rest := by
  simp [dropExact, ← h]

theorem dropExact_append {n : Nat} {bs r x : List UInt8} :
    dropExact n bs = some r → dropExact n (bs ++ x) = some (r ++ x) := by
  fun_cases dropExact n bs with
  | case1 hn =>
    rintro ⟨⟩
    rw [dropExact, if_pos (by rw [List.length_append]; omega), List.drop_append_of_le_length hn]
  | case2 => nofun

structure Tbl.WF (t : Tbl) : Prop where
  id : t.id < 256 ^ 2
  flags : t.flags < 256 ^ 2
  hilen : t.hilen < 256 ^ 4
  lolen : t.lolen < 256 ^ 4
  len : t.data.length = t.total
  elems : ∀ x ∈ t.data, x < 256 ^ t.width

theorem encElems_cons (w x : Nat) (l : List Nat) : encElems w (x :: l) = be w x ++ encElems w l :=
  List.flatMap_cons

theorem encElems_length (w : Nat) (l : List Nat) : (encElems w l).length = l.length * w := by
  induction l with
  | nil => simp [encElems]
  | cons x l ih => rw [encElems_cons, List.length_append, be_length, ih, List.length_cons, Nat.succ_mul, Nat.add_comm]

theorem rdElems_enc (w : Nat) (l : List Nat) (rest : List UInt8) (h : ∀ x ∈ l, x < 256 ^ w) :
    rdElems w l.length (encElems w l ++ rest) = some (l, rest) := by
  induction l with
  | nil => rfl
  | cons x l ih =>
    obtain ⟨hx, hl⟩ := List.forall_mem_cons.mp h
    simp only [encElems_cons, List.append_assoc, List.length_cons, rdElems, rd_be w x _ hx, ih hl]

theorem rdElems_append {w k : Nat} {bs r x : List UInt8} {vs : List Nat} :
    rdElems w k bs = some (vs, r) → rdElems w k (bs ++ x) = some (vs, r ++ x) := by
  fun_induction rdElems w k bs generalizing vs with
  | case1 => rintro ⟨⟩; rfl
  | case4 k bs v r1 h1 vs' r' h2 ih => rintro ⟨⟩; simp only [rdElems, rd_append h1, ih h2]
  | _ => nofun

theorem encTbl_length (t : Tbl) :
    (encTbl t).length = 12 + t.data.length * t.width + padLen (12 + t.data.length * t.width) := by
  simp only [encTbl, List.length_append, be_length, encElems_length, zeros_length]

theorem encTbl_aligned (t : Tbl) : (encTbl t).length % 8 = 0 := by
  rw [encTbl_length]; exact padLen_mod _

theorem encTbl_length_mod8 (t : Tbl) (h : t.WF) : (encTbl t).length % 8 = 0 := encTbl_aligned t

theorem rdTblHdr_enc {t : Tbl} (h : t.WF) (rest : List UInt8) :
    rdTblHdr (be 2 t.id ++ (be 2 t.flags ++ (be 4 t.hilen ++ (be 4 t.lolen ++ rest)))) =
      some ((t.id, t.flags, t.hilen, t.lolen), rest) := by
  simp only [rdTblHdr, rd_be, h.id, h.flags, h.hilen, h.lolen]

theorem rdTblBody_enc {t : Tbl} (h : t.WF) (rest : List UInt8) :
    rdTblBody t.id t.flags t.hilen t.lolen
        (encElems t.width t.data ++ (zeros (padLen (12 + t.data.length * t.width)) ++ rest)) =
      some (t, 12 + t.data.length * t.width + padLen (12 + t.data.length * t.width), rest) := by
  have hl : totalOf t.id t.hilen t.lolen = t.data.length := h.len.symm
  simp only [rdTblBody, Tbl.width, hl, rdElems_enc (widthOf t.flags) _ _ h.elems,
    dropExact_left (zeros_length _)]

theorem decTbl_encTbl (t : Tbl) (h : t.WF) (rest : List UInt8) :
    decTbl (encTbl t ++ rest) = some (t, (encTbl t).length, rest) := by
  rw [encTbl_length]
  simp only [decTbl, encTbl, List.length_append, be_length, encElems_length]
  simp only [List.append_assoc, rdTblHdr_enc h, rdTblBody_enc h]

theorem rdTblHdr_append {bs r x : List UInt8} {f : Nat × Nat × Nat × Nat} :
    rdTblHdr bs = some (f, r) → rdTblHdr (bs ++ x) = some (f, r ++ x) := by
  fun_cases rdTblHdr bs with
  | case5 id r1 h1 flags r2 h2 hilen r3 h3 lolen r4 h4 =>
    rintro ⟨⟩
    simp only [rdTblHdr, rd_append h1, rd_append h2, rd_append h3, rd_append h4]
  | _ => nofun

theorem rdTblBody_append {id flags hilen lolen : Nat} {bs r x : List UInt8} {t : Tbl} {used : Nat} :
    rdTblBody id flags hilen lolen bs = some (t, used, r) →
      rdTblBody id flags hilen lolen (bs ++ x) = some (t, used, r ++ x) := by
  fun_cases rdTblBody id flags hilen lolen bs with
  | case3 w n data r5 h5 used' r6 h6 =>
    rintro ⟨⟩
    simp only [w, n, used'] at h5 h6 ⊢
    simp only [rdTblBody, rdElems_append h5, dropExact_append h6]
  | _ => nofun

theorem decTbl_append {bs r x : List UInt8} {t : Tbl} {used : Nat} :
    decTbl bs = some (t, used, r) → decTbl (bs ++ x) = some (t, used, r ++ x) := by
  fun_cases decTbl bs with
  | case2 id flags hilen lolen r4 h4 =>
    intro h
    simp only [decTbl, rdTblHdr_append h4, rdTblBody_append h]
  | _ => nofun

theorem encTbls_cons (t : Tbl) (ts : List Tbl) : encTbls (t :: ts) = encTbl t ++ encTbls ts :=
  List.flatMap_cons

theorem encTbls_aligned (ts : List Tbl) : (encTbls ts).length % 8 = 0 := by
  induction ts with
  | nil => rfl
  | cons t ts ih =>
    rw [encTbls_cons, List.length_append, Nat.add_mod, encTbl_aligned, ih]

theorem decTbls_enc (ts : List Tbl) (h : ∀ t ∈ ts, t.WF) (rest : List UInt8) {fuel remaining : Nat}
    (hr : remaining = (encTbls ts).length) (hf : remaining ≤ fuel) :
    decTbls fuel remaining (encTbls ts ++ rest) = some (ts, rest) := by
  subst hr
  induction ts generalizing fuel with
  | nil => cases fuel <;> rfl
  | cons t ts ih =>
    obtain ⟨ht, hts⟩ := List.forall_mem_cons.mp h
    have hpos : 0 < (encTbl t).length := by
      rw [encTbl_length]; exact Nat.add_pos_left (Nat.add_pos_left (by decide) _) _
    rw [encTbls_cons, List.length_append] at hf ⊢
    obtain _ | fuel := fuel
    · exact absurd hf (Nat.not_le.mpr (Nat.add_pos_left hpos _))
    · rw [decTbls, if_neg (Nat.ne_of_gt (Nat.add_pos_left hpos _)), List.append_assoc, decTbl_encTbl t ht]
      simp only [Nat.add_sub_cancel_left, ih hts (fuel := fuel) (by omega)]

theorem decTbls_append {fuel remaining : Nat} {bs r x : List UInt8} {ts : List Tbl} :
    decTbls fuel remaining bs = some (ts, r) → decTbls fuel remaining (bs ++ x) = some (ts, r ++ x) := by
  fun_induction decTbls fuel remaining bs generalizing ts with
  | case1 => rintro ⟨⟩; rfl
  | case2 => rintro ⟨⟩; simp only [decTbls, if_true]
  | case5 fuel remaining bs h0 t used r1 hd ts' r' hrec ih =>
    rintro ⟨⟩
    simp only [decTbls, h0, if_false, decTbl_append hd, ih hrec]
  | _ => nofun

structure TblSet.WF (s : TblSet) : Prop where
  vnul : ∀ b ∈ s.version, b ≠ 0
  nnul : ∀ b ∈ s.name, b ≠ 0
  hsize : hsizeOf s ≤ 1024
  tbls : ∀ t ∈ s.tables, t.WF
  size : hsizeOf s + (encTbls s.tables).length < 256 ^ 4

theorem cstr_append (v x : List UInt8) (h : ∀ b ∈ v, b ≠ 0) : cstr (v ++ 0 :: x) = v := by
  unfold cstr
  rw [List.takeWhile_append_of_pos fun b hb => bne_iff_ne.mpr (h b hb),
    List.takeWhile_cons_of_neg (by decide), List.append_nil]

theorem encSet_length (s : TblSet) : (encSet s).length = hsizeOf s + (encTbls s.tables).length := by
  simp only [encSet, hsizeOf, List.length_append, be_length, zeros_length, List.length_cons, List.length_nil]

/-- **64-bit alignment**: the header ends on an 8-byte boundary; so does every table
    (`encTbl_aligned`) and the whole set (`encSet_aligned`) -/
theorem hsizeOf_mod8 (s : TblSet) : hsizeOf s % 8 = 0 := padLen_mod _

theorem encSet_aligned (s : TblSet) : (encSet s).length % 8 = 0 := by
  rw [encSet_length, Nat.add_mod, hsizeOf_mod8, encTbls_aligned]

theorem encSet_length_mod8 (s : TblSet) (h : s.WF) : (encSet s).length % 8 = 0 := encSet_aligned s

/-- the header reader on bytes laid out as `yytbl_hdr_fwrite` lays them out -/
theorem decHdr_layout {v n : List UInt8} (hv : ∀ b ∈ v, b ≠ 0) (hn : ∀ b ∈ n, b ≠ 0) {p hs ss : Nat}
    (hhs : hs = 14 + v.length + 1 + n.length + 1 + p) (hle : hs ≤ 1024) (hss : ss < 256 ^ 4)
    (rest : List UInt8) :
    decHdr (be 4 MAGIC ++ (be 4 hs ++ (be 4 ss ++ (be 2 0 ++ (v ++ 0 :: (n ++ 0 :: (zeros p ++ rest))))))) =
      some (v, n, hs, ss, rest) := by
  have h16 : 16 ≤ hs := by rw [hhs]; simp +arith
  -- version, name and padding are exactly the `hs - 14` bytes the reader takes for the strings
  have hl : (v ++ 0 :: (n ++ 0 :: zeros p)).length = hs - 14 :=
    Nat.eq_sub_of_add_eq (by rw [hhs]; simp +arith only [List.length_append, List.length_cons, zeros_length])
  have e : v ++ 0 :: (n ++ 0 :: (zeros p ++ rest)) = (v ++ 0 :: (n ++ 0 :: zeros p)) ++ rest := by
    simp only [List.append_assoc, List.cons_append]
  simp only [decHdr, rd_be, Nat.lt_of_le_of_lt hle (by decide : 1024 < 256 ^ 4), hss,
    (by decide : MAGIC < 256 ^ 4), (by decide : 0 < 256 ^ 2), ne_eq, not_true_eq_false, if_false, gt_iff_lt,
    Nat.not_lt.mpr h16, Nat.not_lt.mpr hle, or_self, e, ← hl]
  rw [if_neg (by simp), List.take_left, List.drop_left, cstr_append _ _ hv, List.drop_length_add_append,
    List.drop_one, List.tail_cons, cstr_append _ _ hn]

theorem decHdr_enc (s : TblSet) (h : s.WF) (rest : List UInt8) :
    decHdr (encSet s ++ rest) =
      some (s.version, s.name, hsizeOf s, hsizeOf s + (encTbls s.tables).length,
            encTbls s.tables ++ rest) := by
  simp only [encSet, List.append_assoc, List.cons_append, List.nil_append]
  exact decHdr_layout h.vnul h.nnul rfl h.hsize h.size _

/-- **Round trip**: a set written by the writer, followed by anything, reads back as itself and
    leaves exactly what followed. -/
theorem decSet_encSet (s : TblSet) (h : s.WF) (rest : List UInt8) :
    decSet (encSet s ++ rest) = some (s, rest) := by
  rw [decSet, decHdr_enc s h]
  dsimp only
  rw [decTbls_enc _ h.tbls _ (Nat.add_sub_cancel_left ..) (Nat.sub_le ..)]

theorem decHdr_append {bs r v n x : List UInt8} {hs ss : Nat} :
    decHdr bs = some (v, n, hs, ss, r) → decHdr (bs ++ x) = some (v, n, hs, ss, r ++ x) := by
  fun_cases decHdr bs with
  | case8 magic r1 h1 hmagic hsize r2 h2 ssize r3 h3 fl r4 h4 hrange havail strs version name =>
    simp only [Option.some.injEq, Prod.mk.injEq]
    rintro ⟨rfl, rfl, rfl, rfl, rfl⟩
    have hle := Nat.not_lt.mp havail
    have hle' : hsize - 14 ≤ (r4 ++ x).length := by
      rw [List.length_append]; exact Nat.le_trans hle (Nat.le_add_right ..)
    simp only [decHdr, rd_append h1, rd_append h2, rd_append h3, rd_append h4, hmagic, hrange, gt_iff_lt,
      Nat.not_lt.mpr hle', if_false, List.take_append_of_le_length hle, List.drop_append_of_le_length hle]
    rfl
  | _ => nofun

theorem decSet_append {bs r x : List UInt8} {s : TblSet} :
    decSet bs = some (s, r) → decSet (bs ++ x) = some (s, r ++ x) := by
  fun_cases decSet bs with
  | case3 v n hs ss r1 hh ts r' ht =>
    rintro ⟨⟩
    simp only [decSet, decHdr_append hh, decTbls_append ht]
  | _ => nofun

/-- **Every truncation fails**: no proper prefix of a written set loads. -/
theorem truncation_fails (s : TblSet) (h : s.WF) (k : Nat) (hk : k < (encSet s).length) :
    decSet ((encSet s).take k) = none := by
  cases hdec : decSet ((encSet s).take k) with
  | none => rfl
  | some res =>
    -- had the prefix loaded, the whole file would load the same and leave the cut-off part unread
    have hfull := decSet_append (x := (encSet s).drop k) hdec
    have hE := decSet_encSet s h []
    rw [List.append_nil] at hE
    rw [List.take_append_drop, hE] at hfull
    simp only [Option.some.injEq, Prod.mk.injEq, List.nil_eq_append_iff, List.drop_eq_nil_iff] at hfull
    exact absurd hfull.2.2 (Nat.not_le.mpr hk)

theorem decHdr_bad_magic {bs r : List UInt8} {m : Nat} (h : rd 4 bs = some (m, r)) (hm : m ≠ MAGIC) :
    decHdr bs = none := by
  simp only [decHdr, h, hm, ne_eq, not_false_eq_true, if_true]

/-- **Wrong magic number ⇒ loading fails** (whatever follows), by position or by name. -/
theorem bad_magic_fails {bs r : List UInt8} {m : Nat} (h : rd 4 bs = some (m, r)) (hm : m ≠ MAGIC) :
    decSet bs = none ∧ ∀ key fuel, findSet key fuel bs = none := by
  have hd := decHdr_bad_magic h hm
  refine ⟨by rw [decSet, hd], fun key fuel => ?_⟩
  cases fuel with
  | zero => rfl
  | succ f => rw [findSet, hd]

def encSets (l : List TblSet) : List UInt8 := l.flatMap encSet

theorem encSets_cons (s : TblSet) (l : List TblSet) : encSets (s :: l) = encSet s ++ encSets l :=
  List.flatMap_cons

/-- **Look-up by name in a concatenation, in any order**: loading by name from a file that holds
    the sets of `l` one after the other yields the first set of `l` carrying that name. -/
theorem findSet_concat (l : List TblSet) (h : ∀ s ∈ l, s.WF) (key : List UInt8) (rest : List UInt8)
    (fuel : Nat) (hf : l.length < fuel) (s : TblSet) (hs : l.find? (fun x => x.name = key) = some s) :
    findSet key fuel (encSets l ++ rest) = some s := by
  induction l generalizing fuel with
  | nil => cases hs
  | cons a l ih =>
    obtain ⟨ha, hl⟩ := List.forall_mem_cons.mp h
    obtain _ | fuel := fuel
    · cases hf
    rw [encSets_cons, List.append_assoc, findSet, decHdr_enc a ha]
    dsimp only
    rw [List.find?_cons] at hs
    by_cases hn : a.name = key
    · rw [if_pos hn, decTbls_enc _ ha.tbls _ (Nat.add_sub_cancel_left ..) (Nat.sub_le ..)]
      simp only [hn, decide_true] at hs
      exact hs
    · rw [if_neg hn, dropExact_left (Nat.add_sub_cancel_left ..).symm]
      simp only [hn, decide_false] at hs
      exact ih hl fuel (Nat.lt_of_succ_lt_succ hf) hs

/-- non-vacuity: a well-formed set with two tables -/
example : ({ version := [50, 46, 54], name := [121, 121],
             tables := [{ id := 1, flags := 1, hilen := 0, lolen := 3, data := [0, 5, 255] },
                        { id := 0x0B, flags := 0x12, hilen := 0, lolen := 2, data := [0, 1, 65535, 2] }] } : TblSet).WF := by
  refine ⟨by decide, by decide, by decide, ?_, by decide⟩
  intro t ht
  simp only [List.mem_cons, List.mem_nil_iff, or_false] at ht
  rcases ht with rfl | rfl
  · constructor <;> decide
  · constructor <;> decide

end FlexVerif.Ser
