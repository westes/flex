/-
  Opt/Lang.lean — the little imperative language `check_options()` of src/main.c (and the
  `%option` actions of src/scan.l) is written in: tests of option variables, `flexerror`,
  `lwarn`, assignments of constants.  `tools/fv/gen_options.py` translates the C text into a
  `Stmt` on every run (`Gen/Options.lean`); this file gives it a semantics (`Stmt.run`), computes
  the condition under which a program refuses (`Stmt.errs`, `Stmt.errsWith`) or ends normally
  in a state satisfying `Q` (`Stmt.wp`) as a formula over the *initial* option variables, and
  decides such formulas over the finite value sets of those variables (`tautA`).
  `Stmt.holdsAfter_sound` is what a property theorem about the generated program rests on: one
  kernel evaluation of `Stmt.holdsAfter`.
-/
namespace FlexVerif.Opt

abbrev Fld := Nat
abbrev St := Fld → Int

def upd (st : St) (f : Fld) (k : Int) : St := fun g => if g = f then k else st g

inductive Cond
  | tt | ff
  | truthy (f : Fld)            -- `if (x)`
  | eq (f : Fld) (k : Int)      -- `x == k`
  | not (c : Cond)
  | and (a b : Cond)
  | or (a b : Cond)
deriving Repr, DecidableEq, Inhabited

/-- syntactic equality, as a plain Boolean function (the kernel evaluates it far faster than the
    derived `DecidableEq`) -/
def Cond.beq : Cond → Cond → Bool
  | .tt, .tt => true
  | .ff, .ff => true
  | .truthy f, .truthy g => f == g
  | .eq f k, .eq g j => f == g && k == j
  | .not a, .not b => a.beq b
  | .and a b, .and c d => a.beq c && b.beq d
  | .or a b, .or c d => a.beq c && b.beq d
  | _, _ => false

theorem Cond.eq_of_beq : ∀ (a b : Cond), a.beq b = true → a = b := by
  intro a b
  fun_induction Cond.beq a b with
  | case1 | case2 => intro _; rfl
  | case3 f g => intro h; rw [LawfulBEq.eq_of_beq h]
  | case4 f k g j =>
    intro h
    rw [Bool.and_eq_true] at h
    rw [LawfulBEq.eq_of_beq h.1, LawfulBEq.eq_of_beq h.2]
  | case5 a b ih => intro h; rw [ih h]
  | case6 a b c d iha ihb | case7 a b c d iha ihb =>
    intro h
    rw [Bool.and_eq_true] at h
    rw [iha h.1, ihb h.2]
  | case8 => nofun

def Cond.isTT : Cond → Bool
  | .tt => true
  | _ => false

def Cond.eval (st : St) : Cond → Bool
  | .tt => true
  | .ff => false
  | .truthy f => st f != 0
  | .eq f k => st f == k
  | .not c => !c.eval st
  | .and a b => a.eval st && b.eval st
  | .or a b => a.eval st || b.eval st

theorem Cond.eval_of_isTT {c : Cond} (h : c.isTT = true) (st : St) : c.eval st = true := by
  cases c <;> simp_all [Cond.isTT, Cond.eval]

inductive Stmt
  | skip
  | err (msg : Nat)             -- flexerror(msgs[msg]): does not return
  | warn (msg : Nat)            -- lwarn(msgs[msg])
  | set (f : Fld) (k : Int)
  | ite (c : Cond) (t e : Stmt)
  | seq (a b : Stmt)
deriving Repr, Inhabited

structure Res where
  st : St
  err : Option Nat := none
  warns : List Nat := []

def Stmt.run : Stmt → St → Res
  | .skip, st => { st }
  | .err m, st => { st, err := some m }
  | .warn m, st => { st, warns := [m] }
  | .set f k, st => { st := upd st f k }
  | .ite c t e, st => if c.eval st then t.run st else e.run st
  | .seq a b, st =>
    let r := a.run st
    match r.err with
    | some _ => r
    | none => let r' := b.run r.st; { r' with warns := r.warns ++ r'.warns }

def mkNot : Cond → Cond
  | .tt => .ff
  | .ff => .tt
  | c => .not c

def mkAnd (a b : Cond) : Cond :=
  match a, b with
  | .ff, _ => .ff
  | _, .ff => .ff
  | .tt, b => b
  | a, .tt => a
  | a, b =>
    if b.beq (.not a) || a.beq (.not b) then .ff else
    match b with
    | .or (.not a') b' => if a'.beq a then .and a b' else .and a b
    | _ => .and a b

/-- `a ∨ b`, folded: constants, `a ∨ ¬a`, `a ∨ (¬a ∧ b)` — the shape `errs` and `wp` produce for a
    chain of `if (c) flexerror(...)` -/
def mkOr (a b : Cond) : Cond :=
  match a, b with
  | .tt, _ => .tt
  | _, .tt => .tt
  | .ff, b => b
  | a, .ff => a
  | a, b =>
    if b.beq (.not a) || a.beq (.not b) then .tt else
    match b with
    | .and (.not a') b' => if a'.beq a then .or a b' else .or a b
    | _ => .or a b

def mkImp (a b : Cond) : Cond := mkOr (mkNot a) b

@[simp] theorem mkNot_eval (st : St) (c : Cond) : (mkNot c).eval st = !c.eval st := by
  cases c <;> simp [mkNot, Cond.eval]

@[simp] theorem mkAnd_eval (st : St) (a b : Cond) : (mkAnd a b).eval st = (a.eval st && b.eval st) := by
  fun_cases mkAnd a b with
  | case5 a b _ _ _ _ h =>
    -- `b` is `¬a`, or `a` is `¬b`
    rw [Bool.or_eq_true] at h
    rcases h with h | h
    · rw [Cond.eq_of_beq _ _ h]
      simp only [Cond.eval, Bool.and_not_self]
    · rw [Cond.eq_of_beq _ _ h]
      simp only [Cond.eval, Bool.not_and_self]
  | case6 a _ _ a' b' h =>
    -- `b` is `¬a ∨ b'`
    rw [Cond.eq_of_beq _ _ h]
    simp only [Cond.eval, Bool.and_or_distrib_left, Bool.and_not_self, Bool.false_or]
  | _ => simp [Cond.eval]

@[simp] theorem mkOr_eval (st : St) (a b : Cond) : (mkOr a b).eval st = (a.eval st || b.eval st) := by
  fun_cases mkOr a b with
  | case5 a b _ _ _ _ h =>
    -- `b` is `¬a`, or `a` is `¬b`
    rw [Bool.or_eq_true] at h
    rcases h with h | h
    · rw [Cond.eq_of_beq _ _ h]
      simp only [Cond.eval, Bool.or_not_self]
    · rw [Cond.eq_of_beq _ _ h]
      simp only [Cond.eval, Bool.not_or_self]
  | case6 a _ _ a' b' h =>
    -- `b` is `¬a ∧ b'`
    rw [Cond.eq_of_beq _ _ h]
    simp only [Cond.eval, Bool.or_and_distrib_left, Bool.or_not_self, Bool.true_and]
  | _ => simp [Cond.eval]

/-- `if c then x else y` as a formula; nothing at all when both branches say the same (an `if` of
    the program that does not touch what the formula is about) -/
def mkIte (c x y : Cond) : Cond :=
  if x.beq y then x else mkOr (mkAnd c x) (mkAnd (mkNot c) y)

@[simp] theorem mkIte_eval (st : St) (c x y : Cond) :
    (mkIte c x y).eval st = (if c.eval st then x.eval st else y.eval st) := by
  unfold mkIte
  split
  next h => rw [Cond.eq_of_beq _ _ h, ite_self]
  next =>
    simp only [mkOr_eval, mkAnd_eval, mkNot_eval]
    cases c.eval st <;> simp

@[simp] theorem mkImp_eval (st : St) (a b : Cond) : (mkImp a b).eval st = (!a.eval st || b.eval st) := by
  simp [mkImp]

def Cond.subst (f : Fld) (k : Int) : Cond → Cond
  | .tt => .tt
  | .ff => .ff
  | .truthy g => if g = f then (if k != 0 then .tt else .ff) else .truthy g
  | .eq g j => if g = f then (if k == j then .tt else .ff) else .eq g j
  | .not c => mkNot (c.subst f k)
  | .and a b => mkAnd (a.subst f k) (b.subst f k)
  | .or a b => mkOr (a.subst f k) (b.subst f k)

theorem Cond.subst_eval (st : St) (f : Fld) (k : Int) (c : Cond) :
    (c.subst f k).eval st = c.eval (upd st f k) := by
  induction c with
  | tt => rfl
  | ff => rfl
  | truthy g =>
    by_cases h : g = f
    · subst h; by_cases hk : k = 0 <;> simp [Cond.subst, Cond.eval, upd, hk]
    · simp [Cond.subst, Cond.eval, upd, h]
  | eq g j =>
    by_cases h : g = f
    · subst h; by_cases hk : k = j <;> simp [Cond.subst, Cond.eval, upd, hk]
    · simp [Cond.subst, Cond.eval, upd, h]
  | not c ih => simp [Cond.subst, Cond.eval, ih]
  | and a b iha ihb => simp [Cond.subst, Cond.eval, iha, ihb]
  | or a b iha ihb => simp [Cond.subst, Cond.eval, iha, ihb]

theorem Cond.subst_self_eval (st : St) (f : Fld) (c : Cond) : (c.subst f (st f)).eval st = c.eval st := by
  rw [Cond.subst_eval]
  congr 1
  funext g
  by_cases h : g = f <;> simp [upd, h]

/-- `s` ends without `flexerror` and `Q` holds of the final state -/
def Stmt.wp : Stmt → Cond → Cond
  | .skip, Q => Q
  | .err _, _ => .ff
  | .warn _, Q => Q
  | .set f k, Q => Q.subst f k
  | .ite c t e, Q => mkIte c (t.wp Q) (e.wp Q)
  | .seq a b, Q => a.wp (b.wp Q)

theorem Stmt.wp_sound (s : Stmt) : ∀ (Q : Cond) (st : St),
    (s.wp Q).eval st = ((s.run st).err.isNone && Q.eval (s.run st).st) := by
  induction s with
  | ite c t e iht ihe =>
    intro Q st
    by_cases h : c.eval st <;> simp [Stmt.wp, Stmt.run, h, iht, ihe]
  | seq a b iha ihb =>
    intro Q st
    simp only [Stmt.wp, iha, ihb, Stmt.run]
    cases h : (a.run st).err <;> simp [h]
  | _ => intro Q st; simp [Stmt.wp, Stmt.run, Cond.eval, Cond.subst_eval]

def Stmt.errs : Stmt → Cond
  | .skip => .ff
  | .err _ => .tt
  | .warn _ => .ff
  | .set _ _ => .ff
  | .ite c t e => mkIte c t.errs e.errs
  | .seq a b => mkOr a.errs (a.wp b.errs)

theorem Stmt.errs_sound (s : Stmt) : ∀ (st : St), s.errs.eval st = (s.run st).err.isSome := by
  induction s with
  | ite c t e iht ihe =>
    intro st
    by_cases h : c.eval st <;> simp [Stmt.errs, Stmt.run, h, iht, ihe]
  | seq a b iha ihb =>
    intro st
    simp only [Stmt.errs, mkOr_eval, iha, Stmt.wp_sound, ihb, Stmt.run]
    cases h : (a.run st).err <;> simp [h]
  | _ => intro st; simp [Stmt.errs, Stmt.run, Cond.eval]

def Stmt.errsWith (m : Nat) : Stmt → Cond
  | .skip => .ff
  | .err m' => if m' = m then .tt else .ff
  | .warn _ => .ff
  | .set _ _ => .ff
  | .ite c t e => mkIte c (t.errsWith m) (e.errsWith m)
  | .seq a b => mkOr (a.errsWith m) (a.wp (b.errsWith m))

theorem Stmt.errsWith_sound (m : Nat) (s : Stmt) : ∀ (st : St),
    (s.errsWith m).eval st = ((s.run st).err == some m) := by
  induction s with
  | err m' =>
    intro st
    by_cases h : m' = m <;> simp [Stmt.errsWith, Stmt.run, Cond.eval, h]
  | ite c t e iht ihe =>
    intro st
    by_cases h : c.eval st <;> simp [Stmt.errsWith, Stmt.run, h, iht, ihe]
  | seq a b iha ihb =>
    intro st
    simp only [Stmt.errsWith, mkOr_eval, iha, Stmt.wp_sound, ihb, Stmt.run]
    cases h : (a.run st).err <;> simp [h]
  | _ => intro st; simp [Stmt.errsWith, Stmt.run, Cond.eval]

def Stmt.warnsWith (m : Nat) : Stmt → Cond
  | .skip => .ff
  | .err _ => .ff
  | .warn m' => if m' = m then .tt else .ff
  | .set _ _ => .ff
  | .ite c t e => mkIte c (t.warnsWith m) (e.warnsWith m)
  | .seq a b => mkOr (mkAnd (a.warnsWith m) (a.wp (b.wp .tt))) (a.wp (b.warnsWith m))

theorem Stmt.warnsWith_sound (m : Nat) (s : Stmt) : ∀ (st : St),
    (s.warnsWith m).eval st = ((s.run st).err.isNone && (s.run st).warns.contains m) := by
  induction s with
  | warn m' =>
    intro st
    by_cases h : m' = m
    · simp [Stmt.warnsWith, Stmt.run, Cond.eval, h]
    · have : ¬ m = m' := fun e => h e.symm
      simp [Stmt.warnsWith, Stmt.run, Cond.eval, h, this]
  | ite c t e iht ihe =>
    intro st
    by_cases h : c.eval st <;> simp [Stmt.warnsWith, Stmt.run, h, iht, ihe]
  | seq a b iha ihb =>
    intro st
    simp only [Stmt.warnsWith, mkOr_eval, mkAnd_eval, iha, Stmt.wp_sound, ihb, Stmt.run, Cond.eval]
    cases h : (a.run st).err with
    | some x => simp [h]
    | none =>
      simp only [Option.isNone_none, Bool.true_and, Bool.and_true, List.contains_append]
      rw [Bool.and_or_distrib_left, Bool.and_comm]
  | _ => intro st; simp [Stmt.warnsWith, Stmt.run, Cond.eval]

/-! ### leaving out assignments nobody reads

The program that defines the m4 symbols is long, and a statement about one symbol concerns two or
three of its statements.  `Stmt.drop p` removes the assignments to variables in `p`; if no
condition of the program reads such a variable (`condsAvoid`), the outcome, the warnings and all
other variables are unchanged (`run_drop`). -/

def Cond.avoids (p : Fld → Bool) : Cond → Bool
  | .tt => true
  | .ff => true
  | .truthy f => !p f
  | .eq f _ => !p f
  | .not c => c.avoids p
  | .and a b => a.avoids p && b.avoids p
  | .or a b => a.avoids p && b.avoids p

def Stmt.condsAvoid (p : Fld → Bool) : Stmt → Bool
  | .ite c t e => c.avoids p && t.condsAvoid p && e.condsAvoid p
  | .seq a b => a.condsAvoid p && b.condsAvoid p
  | _ => true

def Stmt.isSkip : Stmt → Bool
  | .skip => true
  | _ => false

def Stmt.drop (p : Fld → Bool) : Stmt → Stmt
  | .set f k => if p f then .skip else .set f k
  | .ite c t e =>
    let t' := t.drop p
    let e' := e.drop p
    if t'.isSkip && e'.isSkip then .skip else .ite c t' e'
  | .seq a b =>
    let a' := a.drop p
    let b' := b.drop p
    if a'.isSkip then b' else if b'.isSkip then a' else .seq a' b'
  | s => s

def agree (p : Fld → Bool) (st st' : St) : Prop := ∀ f, p f = false → st f = st' f

theorem Cond.eval_agree {p : Fld → Bool} {st st' : St} (h : agree p st st') :
    ∀ c : Cond, c.avoids p = true → c.eval st = c.eval st' := by
  intro c
  induction c with
  | truthy f | eq f k => intro hc; simp only [Cond.avoids, Bool.not_eq_true'] at hc; simp [Cond.eval, h f hc]
  | not c ih => intro hc; simp [Cond.eval, ih hc]
  | and a b iha ihb | or a b iha ihb =>
    intro hc; simp only [Cond.avoids, Bool.and_eq_true] at hc; simp [Cond.eval, iha hc.1, ihb hc.2]
  | _ => intro _; rfl

theorem Stmt.isSkip_eq {s : Stmt} (h : s.isSkip = true) : s = .skip := by
  cases s <;> simp_all [Stmt.isSkip]

theorem Stmt.run_seq_skip (a : Stmt) (st : St) : (Stmt.seq a .skip).run st = a.run st := by
  simp only [Stmt.run]
  cases h : a.run st with
  | mk s e w => cases e <;> simp

def Sim (p : Fld → Bool) (r r' : Res) : Prop := r.err = r'.err ∧ r.warns = r'.warns ∧ agree p r.st r'.st

theorem Stmt.run_drop (p : Fld → Bool) (s : Stmt) : s.condsAvoid p = true →
    ∀ st st', agree p st st' → Sim p (s.run st) ((s.drop p).run st') := by
  induction s with
  | set f k =>
    intro _ st st' h
    simp only [Stmt.drop]
    split
    next hp =>
      refine ⟨rfl, rfl, fun g hg => ?_⟩
      have : g ≠ f := fun e => by simp [e, hp] at hg
      simp [Stmt.run, upd, this, h g hg]
    next =>
      refine ⟨rfl, rfl, fun g hg => ?_⟩
      by_cases e : g = f <;> simp [Stmt.run, upd, e, h g hg]
  | ite c t e iht ihe =>
    intro hc st st' h
    simp only [Stmt.condsAvoid, Bool.and_eq_true] at hc
    have ht := iht hc.1.2 st st' h
    have he := ihe hc.2 st st' h
    simp only [Stmt.drop]
    split
    next hs =>
      -- both branches dropped to `skip`
      simp only [Bool.and_eq_true] at hs
      rw [Stmt.isSkip_eq hs.1] at ht
      rw [Stmt.isSkip_eq hs.2] at he
      simp only [Stmt.run]
      split <;> assumption
    next =>
      simp only [Stmt.run, Cond.eval_agree h c hc.1.1]
      split <;> assumption
  | seq a b iha ihb =>
    intro hc st st' h
    simp only [Stmt.condsAvoid, Bool.and_eq_true] at hc
    obtain ⟨he, hw, hs⟩ := iha hc.1 st st' h
    -- the run of `seq a b` against the run of `seq (a.drop p) (b.drop p)`, which `drop` then folds
    have key : Sim p ((Stmt.seq a b).run st) ((Stmt.seq (a.drop p) (b.drop p)).run st') := by
      simp only [Stmt.run, ← he]
      cases hea : (a.run st).err with
      | some m => exact ⟨he, hw, hs⟩
      | none =>
        obtain ⟨he2, hw2, hs2⟩ := ihb hc.2 _ _ hs
        exact ⟨he2, by simp [hw, hw2], hs2⟩
    simp only [Stmt.drop]
    split
    next hs =>
      -- `(seq skip b').run st'` computes to `b'.run st'`
      rw [Stmt.isSkip_eq hs] at key
      exact key
    next =>
      split
      next hs => rwa [Stmt.isSkip_eq hs, Stmt.run_seq_skip] at key
      next => exact key
  | _ => intro _ st st' h; exact ⟨rfl, rfl, h⟩

theorem Stmt.run_drop_self (p : Fld → Bool) (s : Stmt) (h : s.condsAvoid p = true) (st : St) :
    Sim p (s.run st) ((s.drop p).run st) :=
  s.run_drop p h st st (fun _ _ => rfl)

theorem Cond.avoids_mono {p q : Fld → Bool} (hpq : ∀ f, q f = true → p f = true) :
    ∀ c : Cond, c.avoids p = true → c.avoids q = true := by
  intro c
  induction c with
  | truthy f | eq f k => intro h; have := hpq f; cases hq : q f <;> simp_all [Cond.avoids]
  | not c ih => exact ih
  | and a b iha ihb | or a b iha ihb =>
    intro h; simp only [Cond.avoids, Bool.and_eq_true] at h ⊢; exact ⟨iha h.1, ihb h.2⟩
  | _ => intro _; rfl

theorem Stmt.condsAvoid_mono {p q : Fld → Bool} (hpq : ∀ f, q f = true → p f = true) :
    ∀ s : Stmt, s.condsAvoid p = true → s.condsAvoid q = true := by
  intro s
  induction s with
  | ite c t e iht ihe =>
    intro h
    simp only [Stmt.condsAvoid, Bool.and_eq_true] at h ⊢
    exact ⟨⟨Cond.avoids_mono hpq c h.1.1, iht h.1.2⟩, ihe h.2⟩
  | seq a b iha ihb =>
    intro h
    simp only [Stmt.condsAvoid, Bool.and_eq_true] at h ⊢
    exact ⟨iha h.1, ihb h.2⟩
  | _ => intro _; rfl

/-! ### leaving out `flexerror` tests that cannot matter

A claim "refused, or `Q` afterwards" is about the runs that are not refused, and those stay as they are when a
`flexerror` is replaced by `skip` (`run_sliceErrs`).  So any of them may be left out of the decision, and the formula to
decide shrinks from all of check_options() to the few tests on the variables the claim is about. -/

/-- a `flexerror` that is not under a test of a variable in `rel` becomes `skip` -/
def Stmt.sliceErrs (rel : Fld → Bool) : Stmt → Stmt
  | .err _ => .skip
  | .ite c t e => if c.avoids rel then .ite c (t.sliceErrs rel) (e.sliceErrs rel) else .ite c t e
  | .seq a b => .seq (a.sliceErrs rel) (b.sliceErrs rel)
  | s => s

theorem Stmt.run_sliceErrs (rel : Fld → Bool) (s : Stmt) :
    ∀ st, (s.run st).err = none → (s.sliceErrs rel).run st = s.run st := by
  induction s with
  | err m => intro st h; simp [Stmt.run] at h
  | ite c t e iht ihe =>
    intro st h
    simp only [Stmt.sliceErrs]
    split
    · simp only [Stmt.run] at h ⊢
      split <;> simp_all
    · rfl
  | seq a b iha ihb =>
    intro st h
    simp only [Stmt.sliceErrs, Stmt.run] at h ⊢
    cases ha : (a.run st).err with
    | some m => simp [ha] at h
    | none =>
      simp only [ha] at h
      rw [iha st ha]
      simp only [ha]
      rw [ihb _ h]
  | _ => intro _ _; rfl

def Cond.mentions (f : Fld) : Cond → Bool
  | .tt => false
  | .ff => false
  | .truthy g => g == f
  | .eq g _ => g == f
  | .not c => c.mentions f
  | .and a b => a.mentions f || b.mentions f
  | .or a b => a.mentions f || b.mentions f

/-- `c` holds for every assignment of the listed values to the listed variables (and `c` mentions
    no other variable) -/
def tautOn : List (Fld × List Int) → Cond → Bool
  | [], c => c.isTT
  | (f, vals) :: rest, c =>
    if c.mentions f then vals.all fun v => tautOn rest (c.subst f v) else tautOn rest c

theorem tautOn_sound : ∀ (doms : List (Fld × List Int)) (c : Cond), tautOn doms c = true →
    ∀ st : St, (∀ p ∈ doms, st p.1 ∈ p.2) → c.eval st = true := by
  intro doms
  induction doms with
  | nil =>
    intro c h st _
    exact Cond.eval_of_isTT h st
  | cons p rest ih =>
    intro c h st hst
    obtain ⟨f, vals⟩ := p
    have hrest : ∀ q ∈ rest, st q.1 ∈ q.2 := fun q hq => hst q (List.mem_cons_of_mem _ hq)
    simp only [tautOn] at h
    split at h
    · simp only [List.all_eq_true] at h
      have hf : st f ∈ vals := hst (f, vals) (List.mem_cons_self ..)
      have := ih _ (h _ hf) st hrest
      rwa [Cond.subst_self_eval] at this
    · exact ih _ h st hrest

/-- the variables of `fs` first (those a hypothesis fixes: the formula collapses at once) -/
def reorder (fs : List Fld) (doms : List (Fld × List Int)) : List (Fld × List Int) :=
  doms.filter (fun p => fs.contains p.1) ++ doms.filter (fun p => !fs.contains p.1)

theorem mem_of_mem_reorder {fs : List Fld} {doms : List (Fld × List Int)} {p : Fld × List Int}
    (h : p ∈ reorder fs doms) : p ∈ doms := by
  simp only [reorder, List.mem_append, List.mem_filter] at h
  rcases h with h | h <;> exact h.1

def Cond.fields : Cond → List Fld
  | .tt => []
  | .ff => []
  | .truthy g => [g]
  | .eq g _ => [g]
  | .not c => c.fields
  | .and a b => a.fields ++ b.fields
  | .or a b => a.fields ++ b.fields

def Cond.first? : Cond → Option Fld
  | .tt => none
  | .ff => none
  | .truthy g => some g
  | .eq g _ => some g
  | .not c => c.first?
  | .and a b => a.first? <|> b.first?
  | .or a b => a.first? <|> b.first?

/-- as `tautOn`, but the next variable to split on is the leftmost one of the formula: the order in
    which the program tests them, so each branch collapses as a path of the program would -/
def tautA (doms : List (Fld × List Int)) : Nat → Cond → Bool
  | 0, c => c.isTT
  | fuel + 1, c =>
    match c.first? with
    | none => c.isTT
    | some f =>
      match doms.find? (fun p => p.1 == f) with
      | none => false
      | some p => p.2.all fun v => tautA doms fuel (c.subst f v)

theorem tautA_sound (doms : List (Fld × List Int)) : ∀ (fuel : Nat) (c : Cond), tautA doms fuel c = true →
    ∀ st : St, (∀ p ∈ doms, st p.1 ∈ p.2) → c.eval st = true := by
  intro fuel
  induction fuel with
  | zero =>
    intro c h st _
    exact Cond.eval_of_isTT h st
  | succ n ih =>
    intro c h st hst
    simp only [tautA] at h
    split at h
    next => exact Cond.eval_of_isTT h st
    next f _ =>
      split at h
      next => cases h
      next p hp =>
        have hf : p.1 = f := by simpa using List.find?_some hp
        have hv : st f ∈ p.2 := hf ▸ hst p (List.mem_of_find?_eq_some hp)
        simp only [List.all_eq_true] at h
        have := ih _ (h _ hv) st hst
        rwa [Cond.subst_self_eval] at this

/-- every option variable has a value of its C type (`bool`, `trit`, …) -/
def WT (doms : List (Fld × List Int)) (st : St) : Prop := ∀ p ∈ doms, st p.1 ∈ p.2

/-- decides "`hyp` before → refused, or `Q` afterwards" on the program without the assignments to `p` (which nobody
    reads).  `w` is `Q` pulled back through the program with no `flexerror` at all: what holds afterwards if the run is not
    refused.  Often `hyp → w` holds as it stands; if not, the `flexerror`s that a test of a variable of `hyp` or `w` guards
    are taken into account. -/
def Stmt.holdsAfter (doms : List (Fld × List Int)) (s : Stmt) (p : Fld → Bool) (hyp Q : Cond) : Bool :=
  let s1 := s.drop p
  let w := (s1.sliceErrs fun _ => false).wp Q
  let rel := hyp.fields ++ w.fields
  Q.avoids p && (tautA doms doms.length (mkImp hyp w) ||
    tautA doms doms.length (mkImp hyp (mkOr (s1.sliceErrs fun f => rel.contains f).errs w)))

theorem Stmt.holdsAfter_sound {doms : List (Fld × List Int)} {s : Stmt} {p : Fld → Bool} {hyp Q : Cond}
    (hc : s.condsAvoid p = true) (h : s.holdsAfter doms p hyp Q = true) :
    ∀ st, WT doms st → hyp.eval st = true → (s.run st).err.isSome = true ∨ Q.eval (s.run st).st = true := by
  intro st hst hh
  simp only [Stmt.holdsAfter, Bool.and_eq_true, Bool.or_eq_true] at h
  cases he : (s.run st).err with
  | some m => exact Or.inl rfl
  | none =>
    obtain ⟨he1, _, hs⟩ := s.run_drop_self p hc st
    have h1 : ((s.drop p).run st).err = none := he1 ▸ he
    -- a run that is not refused is that of either sliced program
    have hw : (((s.drop p).sliceErrs fun _ => false).wp Q).eval st = true := by
      rcases h.2 with h2 | h2 <;> have ht := tautA_sound _ _ _ h2 st hst
      · simpa [hh] using ht
      · simpa [hh, Stmt.errs_sound, Stmt.run_sliceErrs _ _ st h1, h1] using ht
    rw [Stmt.wp_sound, Stmt.run_sliceErrs _ _ st h1, h1, ← Cond.eval_agree hs Q h.1] at hw
    exact Or.inr (by simpa using hw)

/-- a conjunction is decided conjunct by conjunct: each depends on fewer variables than the whole -/
def Stmt.holdsAfterAll (doms : List (Fld × List Int)) (s : Stmt) (p : Fld → Bool) (hyp : Cond) : Cond → Bool
  | .and a b => s.holdsAfterAll doms p hyp a && s.holdsAfterAll doms p hyp b
  | Q => s.holdsAfter doms p hyp Q

theorem Stmt.holdsAfterAll_sound {doms : List (Fld × List Int)} {s : Stmt} {p : Fld → Bool} {hyp : Cond}
    (hc : s.condsAvoid p = true) : ∀ {Q : Cond}, s.holdsAfterAll doms p hyp Q = true →
    ∀ st, WT doms st → hyp.eval st = true → (s.run st).err.isSome = true ∨ Q.eval (s.run st).st = true := by
  intro Q
  induction Q with
  | and a b iha ihb =>
    intro h st hst hh
    rw [Stmt.holdsAfterAll, Bool.and_eq_true] at h
    rcases iha h.1 st hst hh with e | ha
    · exact Or.inl e
    · exact (ihb h.2 st hst hh).imp_right fun hb => by simp [Cond.eval, ha, hb]
  | _ => exact Stmt.holdsAfter_sound hc

/-- decides "`hyp` before → refused, or warning `m` printed": of the `flexerror`s only those under a test of a variable of
    `hyp` count, and the warning is looked for in the program without any (a run that is not refused is the same there) -/
def Stmt.warnsAfter (doms : List (Fld × List Int)) (s : Stmt) (hyp : Cond) (m : Nat) : Bool :=
  tautA doms doms.length (mkImp hyp (mkOr (s.sliceErrs fun f => hyp.fields.contains f).errs
    ((s.sliceErrs fun _ => false).warnsWith m)))

theorem Stmt.warnsAfter_sound {doms : List (Fld × List Int)} {s : Stmt} {hyp : Cond} {m : Nat}
    (h : s.warnsAfter doms hyp m = true) :
    ∀ st, WT doms st → hyp.eval st = true → (s.run st).err.isSome = true ∨ (s.run st).warns.contains m = true := by
  intro st hst hh
  have := tautA_sound _ _ _ h st hst
  rw [mkImp_eval, mkOr_eval, Stmt.errs_sound, Stmt.warnsWith_sound, hh] at this
  cases he : (s.run st).err with
  | some _ => exact Or.inl rfl
  | none =>
    rw [Stmt.run_sliceErrs _ _ st he, Stmt.run_sliceErrs _ _ st he, he] at this
    exact Or.inr (by simpa using this)

theorem Stmt.condsAvoid_none (s : Stmt) : s.condsAvoid (fun _ => false) = true := by
  have hc : ∀ c : Cond, c.avoids (fun _ => false) = true := by
    intro c; induction c <;> simp_all [Cond.avoids]
  induction s <;> simp_all [Stmt.condsAvoid]

end FlexVerif.Opt
