/-
  Imp/Tables.lean — how a state of the language holds a read-only table of the scanner: `Ex.tab t e` reads `vars`
  at `tabLen t` and `tabCell t i`, and `Holds s t a` says those cells are the array `a`; then a table read is the
  bounds-checked read `rd a` of `Validator/Tables.lean`.  (The namespace is that of the first user, `Props/C01Step*.lean`.)
-/
import FlexVerif.Imp.Lemmas
import FlexVerif.Validator.Tables

namespace FlexVerif.C01Step
open FlexVerif.Imp

structure Holds (s : State) (t : Nat) (a : Array Int) : Prop where
  len : s.vars (tabLen t) = a.size
  cell : ∀ i (h : i < a.size), s.vars (tabCell t i) = a[i]

theorem tab_eval {s : State} {t : Nat} {a : Array Int} (h : Holds s t a) (e : Ex) (k : Int) (he : e.eval s = some k) :
    (Ex.tab t e).eval s = rd a k := by
  simp only [Ex.eval, he, bind, Option.bind, rd, h.len]
  by_cases hk : 0 ≤ k ∧ k < (a.size : Int)
  · rw [if_pos hk, if_neg (by omega), h.cell _ (by omega), Array.getElem?_eq_getElem]
  · rw [if_neg hk]
    split
    · rfl
    · rw [Array.getElem?_eq_none (by omega)]

theorem holds_setVar {s : State} {t : Nat} {a : Array Int} (h : Holds s t a) (x : Nat) (v : Int) (hx : x < 5000) :
    Holds (setVar s x v) t a :=
  ⟨(setVar_ne s v (by unfold tabLen; omega)).trans h.len,
   fun i hi => (setVar_ne s v (by unfold tabCell; omega)).trans (h.cell i hi)⟩

theorem holds_arr {s : State} {t : Nat} {a : Array Int} (h : Holds s t a) (arr : List Int) : Holds { s with arr := arr } t a :=
  ⟨h.len, h.cell⟩

end FlexVerif.C01Step
