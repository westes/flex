/-
  Imp/Lemmas.lean — how the programs of `Imp/Lang.lean` are reasoned about.  States are compared field by field
  (`State.ext`); a variable read after `setVar` is decided by `setVar_vars`; a program is taken apart one statement
  at a time by the `run_*` rules, and a loop one round at a time by `loop_done` / `loop_step`.  `Runs p s o Q` (the run of
  `p` from `s` has outcome `o` and ends in a state satisfying `Q`) is the form in which the theorems about translated
  functions are proved: its rules follow the program text, so no intermediate state has to be written down.  An
  expression without array or table reads evaluates by `rfl`; for the others there are the `eval_*_some` lemmas, which
  leave the parts folded.  The list facts at the end say what moving, writing and reading stretches of the array comes to.
  Where things live in `vars` (`Imp/Lang.lean`): a program's own variables have small numbers (below 30 in `Gen/*.lean`); the
  reader's offer is `inLen = 900` and `inByte i = 901 + i`; table `t` has its length at `tabLen t = 5000 + t` and cell `i` at
  `tabCell t i = 10000 + 16 i + t`, distinct for `t < 16`.  Hence the side conditions `x < 900` (`inByte_ne`) and `x < 5000`
  (`holds_setVar`) on a variable assigned to.  `inByte i` is `tabLen 0` at `i = 4099`: no program has both a reader and tables.
-/
import FlexVerif.Imp.Lang
namespace FlexVerif.Imp

theorem State.ext {a b : State} (hv : ∀ y, a.vars y = b.vars y) (ha : a.arr = b.arr) (hl : a.log = b.log) : a = b := by
  cases a; cases b
  simp only at hv ha hl
  subst ha hl
  congr 1
  funext y; exact hv y

theorem setVar_vars (s : State) (x y : Nat) (v : Int) : (setVar s x v).vars y = if y = x then v else s.vars y := rfl
@[simp] theorem setVar_arr (s : State) (x : Nat) (v : Int) : (setVar s x v).arr = s.arr := rfl
@[simp] theorem setVar_log (s : State) (x : Nat) (v : Int) : (setVar s x v).log = s.log := rfl
@[simp] theorem setVar_same (s : State) (x : Nat) (v : Int) : (setVar s x v).vars x = v := if_pos rfl
theorem setVar_ne (s : State) {x y : Nat} (v : Int) (h : y ≠ x) : (setVar s x v).vars y = s.vars y := if_neg h

theorem setVar_self {s : State} {x : Nat} {v : Int} (h : s.vars x = v) : setVar s x v = s :=
  State.ext (fun y => by rw [setVar_vars]; split <;> simp_all) rfl rfl

@[simp] theorem b2i_ne_zero (b : Bool) : (b2i b != 0) = b := by cases b <;> rfl
theorem b2i_eq_zero (b : Bool) : b2i b = 0 ↔ b = false := by cases b <;> simp [b2i]
theorem b2i_decide_eq_zero {p : Prop} [Decidable p] : b2i (decide p) = 0 ↔ ¬ p := (b2i_eq_zero _).trans decide_eq_false_iff_not
theorem b2i_decide_ne_zero {p : Prop} [Decidable p] : b2i (decide p) ≠ 0 ↔ p := (not_congr b2i_decide_eq_zero).trans Decidable.not_not

theorem toNat_add_le {a b : Int} {n : Nat} (ha : 0 ≤ a) (hb : 0 ≤ b) (h : a + b ≤ n) : a.toNat + b.toNat ≤ n := by
  rw [← Int.toNat_add ha hb, Int.toNat_le]; exact h

section
variable {s : State} {a b c : Ex} {x y : Int}

theorem eval_var (s : State) (x : Nat) : (Ex.var x).eval s = some (s.vars x) := rfl
theorem eval_lit (s : State) (k : Int) : (Ex.lit k).eval s = some k := rfl
theorem eval_add_some (ha : a.eval s = some x) (hb : b.eval s = some y) : (Ex.add a b).eval s = some (x + y) := by
  simp [Ex.eval, ha, hb]
theorem eval_sub_some (ha : a.eval s = some x) (hb : b.eval s = some y) : (Ex.sub a b).eval s = some (x - y) := by
  simp [Ex.eval, ha, hb]
theorem eval_mul_some (ha : a.eval s = some x) (hb : b.eval s = some y) : (Ex.mul a b).eval s = some (x * y) := by
  simp [Ex.eval, ha, hb]
theorem eval_lt_some (ha : a.eval s = some x) (hb : b.eval s = some y) : (Ex.lt a b).eval s = some (b2i (x < y)) := by
  simp [Ex.eval, ha, hb]
theorem eval_le_some (ha : a.eval s = some x) (hb : b.eval s = some y) : (Ex.le a b).eval s = some (b2i (x ≤ y)) := by
  simp [Ex.eval, ha, hb]
theorem eval_eq_some (ha : a.eval s = some x) (hb : b.eval s = some y) : (Ex.eq a b).eval s = some (b2i (x == y)) := by
  simp [Ex.eval, ha, hb]
theorem eval_and_some (ha : a.eval s = some x) (hb : b.eval s = some y) :
    (Ex.and a b).eval s = some (b2i (x != 0 && y != 0)) := by simp [Ex.eval, ha, hb]
theorem eval_not_some (ha : a.eval s = some x) : (Ex.not a).eval s = some (b2i (x == 0)) := by simp [Ex.eval, ha]
theorem eval_cond_some (hc : c.eval s = some x) : (Ex.cond c a b).eval s = if x != 0 then a.eval s else b.eval s := by
  simp [Ex.eval, hc]

theorem some_ite {α : Type} (p : Prop) [Decidable p] (a b : α) : (if p then some a else some b) = some (if p then a else b) := by
  split <;> rfl

theorem eval_idx_some {v : Int} (ha : a.eval s = some x) (hx : 0 ≤ x) (hv : s.arr[x.toNat]? = some v) :
    (Ex.idx a).eval s = some v := by simp [Ex.eval, ha, hx, hv]

theorem eval_idx_get {n : Nat} {v : Int} (ha : a.eval s = some x) (hx : x = n) (hv : s.arr[n]? = some v) :
    (Ex.idx a).eval s = some v := by
  subst hx; simp [Ex.eval, ha, hv]

theorem eval_idx_at {n : Nat} (ha : a.eval s = some x) (hx : x = n) (hn : n < s.arr.length) :
    (Ex.idx a).eval s = some s.arr[n] := eval_idx_get ha hx (List.getElem?_eq_getElem hn)

end

theorem run_seq_normal {a b : St} {s s' : State} (h : a.run s = (s', .normal)) : (St.seq a b).run s = b.run s' := by
  simp [St.run, h]

theorem run_seq_stop {a b : St} {s s' : State} {o : Outcome} (h : a.run s = (s', o)) (ho : o ≠ .normal) :
    (St.seq a b).run s = (s', o) := by
  simp only [St.run, h]
  cases o <;> simp_all

theorem run_seq_assoc (a b c : St) (s : State) : (St.seq a (.seq b c)).run s = (St.seq (.seq a b) c).run s := by
  simp only [St.run]
  cases a.run s with
  | mk s1 o => cases o <;> rfl

theorem run_assign_some {s : State} {x : Nat} {e : Ex} {v : Int} (he : e.eval s = some v) :
    (St.assign x e).run s = (setVar s x v, .normal) := by simp [St.run, he]

theorem run_store_some {s : State} {i e : Ex} {k v : Int} {n : Nat} (hi : i.eval s = some k) (he : e.eval s = some v)
    (hk : k = n) (hn : n < s.arr.length) : (St.store i e).run s = ({ s with arr := s.arr.set n v }, .normal) := by
  subst hk; simp [St.run, hi, he, hn]

theorem run_ite_some {s : State} {c : Ex} {t e : St} {v : Int} (hc : c.eval s = some v) :
    (St.ite c t e).run s = if v != 0 then t.run s else e.run s := by simp [St.run, hc]

theorem run_ite_assign (c a b : Ex) (x : Nat) (s : State) :
    (St.ite c (.assign x a) (.assign x b)).run s = (St.assign x (.cond c a b)).run s := by
  simp only [St.run, Ex.eval, bind, Option.bind]
  cases c.eval s with
  | none => rfl
  | some v => by_cases hv : (v != 0) = true <;> simp [hv]

theorem run_while (c : Ex) (b : St) (s : State) :
    (St.while_ c b).run s = loop (fun s' => c.eval s') (fun s' => b.run s') (s.arr.length + 3) s := rfl

-- `c` and `b` stand as `St.run` hands them to `loop`
section
variable {c : Ex} {b : St} {n : Nat} {s s' : State} {v : Int} {o : Outcome}

theorem loop_done (hn : 0 < n) (hc : c.eval s = some 0) :
    loop (fun s' => c.eval s') (fun s' => b.run s') n s = (s, .normal) := by
  cases n with
  | zero => omega
  | succ n => simp [loop, hc]

theorem loop_step (hn : 0 < n) (hc : c.eval s = some v) (hv : v ≠ 0) (hb : b.run s = (s', .normal)) :
    loop (fun s' => c.eval s') (fun s' => b.run s') n s = loop (fun s' => c.eval s') (fun s' => b.run s') (n - 1) s' := by
  cases n with
  | zero => omega
  | succ n => simp [loop, hc, hv, hb]

theorem loop_stop (hn : 0 < n) (hc : c.eval s = some v) (hv : v ≠ 0) (hb : b.run s = (s', o)) (ho : o ≠ .normal) :
    loop (fun s' => c.eval s') (fun s' => b.run s') n s = (s', o) := by
  cases n with
  | zero => omega
  | succ n =>
    simp only [loop, hc, hb]
    cases o <;> simp_all

end

def Runs (p : St) (s : State) (o : Outcome) (Q : State → Prop) : Prop := ∃ s', p.run s = (s', o) ∧ Q s'

namespace Runs
variable {p a b t e : St} {s s' : State} {o : Outcome} {Q : State → Prop}

theorem of_eq (h : p.run s = (s', o)) (hQ : Q s') : Runs p s o Q := ⟨s', h, hQ⟩

theorem run_eq {t : State} (h : Runs p s o (· = t)) : p.run s = (t, o) :=
  let ⟨_, hr, e⟩ := h; e ▸ hr

theorem of_run_eq {q : St} (h : p.run s = q.run s) (hq : Runs q s o Q) : Runs p s o Q :=
  let ⟨s', hr, hq⟩ := hq; ⟨s', h.trans hr, hq⟩

/-- for statements about `(p.run s).2` and `(p.run s).1` -/
theorem pair (h : Runs p s o Q) : (p.run s).2 = o ∧ Q (p.run s).1 :=
  let ⟨_, hr, hq⟩ := h; by rw [hr]; exact ⟨rfl, hq⟩

theorem mono {Q' : State → Prop} (h : Runs p s o Q) (hQ : ∀ s', Q s' → Q' s') : Runs p s o Q' :=
  let ⟨s', hr, hq⟩ := h; ⟨s', hr, hQ s' hq⟩

theorem seq (h : Runs a s .normal fun s1 => Runs b s1 o Q) : Runs (.seq a b) s o Q :=
  let ⟨_, ha, s', hb, hq⟩ := h; ⟨s', by rw [run_seq_normal ha, hb], hq⟩

theorem seq_assoc {c : St} (h : Runs (.seq (.seq a b) c) s o Q) : Runs (.seq a (.seq b c)) s o Q :=
  let ⟨s', hr, hq⟩ := h; ⟨s', (run_seq_assoc a b c s).trans hr, hq⟩

theorem seq_stop (h : Runs a s o Q) (ho : o ≠ .normal) : Runs (.seq a b) s o Q :=
  let ⟨s', ha, hq⟩ := h; ⟨s', run_seq_stop ha ho, hq⟩

theorem skip (hQ : Q s) : Runs .skip s .normal Q := ⟨s, rfl, hQ⟩

theorem assign {x : Nat} {ex : Ex} {v : Int} (he : ex.eval s = some v) (hQ : Q (setVar s x v)) :
    Runs (.assign x ex) s .normal Q := ⟨_, run_assign_some he, hQ⟩

theorem store {i ex : Ex} {k v : Int} {n : Nat} (hi : i.eval s = some k) (he : ex.eval s = some v) (hk : k = n)
    (hn : n < s.arr.length) (hQ : Q { s with arr := s.arr.set n v }) : Runs (.store i ex) s .normal Q :=
  ⟨_, run_store_some hi he hk hn, hQ⟩

theorem ret {ex : Ex} {v : Int} (he : ex.eval s = some v) (hQ : Q s) : Runs (.ret ex) s (.returned v) Q :=
  ⟨s, by simp [St.run, he], hQ⟩

theorem fatal {m : Nat} (hQ : Q s) : Runs (.fatal m) s (.fatal m) Q := ⟨s, rfl, hQ⟩

theorem call {f : Nat} {ex : Ex} {v : Int} (he : ex.eval s = some v) (hQ : Q { s with log := s.log ++ [(f, v)] }) :
    Runs (.call f ex) s .normal Q := ⟨_, by simp [St.run, he], hQ⟩

theorem ite_true {c : Ex} {v : Int} (hc : c.eval s = some v) (hv : v ≠ 0) (h : Runs t s o Q) : Runs (.ite c t e) s o Q := by
  obtain ⟨s', hr, hq⟩ := h
  exact ⟨s', by rw [run_ite_some hc]; simp [hv, hr], hq⟩

theorem ite_false {c : Ex} (hc : c.eval s = some 0) (h : Runs e s o Q) : Runs (.ite c t e) s o Q := by
  obtain ⟨s', hr, hq⟩ := h
  exact ⟨s', by rw [run_ite_some hc]; simp [hr], hq⟩

section
variable {c : Ex} {P : Prop} [Decidable P]

/-- a test that comes out as the truth value of `P` -/
theorem ite_pos (hc : c.eval s = some (b2i (decide P))) (hP : P) (h : Runs t s o Q) : Runs (.ite c t e) s o Q :=
  .ite_true hc (b2i_decide_ne_zero.mpr hP) h

theorem ite_neg (hc : c.eval s = some (b2i (decide P))) (hP : ¬ P) (h : Runs e s o Q) : Runs (.ite c t e) s o Q :=
  .ite_false (hc.trans (congrArg some (b2i_decide_eq_zero.mpr hP))) h

theorem ite_same {v : Int} (hc : c.eval s = some v) (h : Runs t s o Q) : Runs (.ite c t t) s o Q := by
  by_cases hv : v = 0
  · exact ite_false (hv ▸ hc) h
  · exact ite_true hc hv h

theorem ite_fatal {m : Nat} (hc : c.eval s = some (b2i (decide P))) (hQ : Q s) :
    Runs (.ite c (.fatal m) .skip) s (if P then .fatal m else .normal) Q := by
  split
  · exact .ite_pos hc ‹_› (.fatal hQ)
  · exact .ite_neg hc ‹_› (.skip hQ)

end

theorem growTo {ex : Ex} {k : Int} (he : ex.eval s = some k)
    (hQ : Q { s with arr := s.arr ++ List.replicate (k.toNat - s.arr.length) garbage }) : Runs (.growTo ex) s .normal Q :=
  ⟨_, by simp [St.run, he], hQ⟩

/-- `yyalloc()` of a block of `k` elements where there was none -/
theorem alloc {ex : Ex} {k : Nat} (harr : s.arr = []) (he : ex.eval s = some k)
    (hQ : Q { s with arr := List.replicate k garbage }) : Runs (.growTo ex) s .normal Q :=
  .growTo he (by simpa [harr] using hQ)

/-- `yyrealloc()` to `c` elements more -/
theorem growBy {ex : Ex} {c : Nat} (he : ex.eval s = some ((s.arr.length + c : Nat) : Int))
    (hQ : Q { s with arr := s.arr ++ List.replicate c garbage }) : Runs (.growTo ex) s .normal Q :=
  .growTo he (by rwa [Int.toNat_natCast, Nat.add_sub_cancel_left])

/-- `memset` of the `c'` cells a `growTo` has just added to `old` -/
theorem zero_grown {i n : Ex} {k c : Int} {old : List Int} {c' : Nat} (hi : i.eval s = some k) (hn : n.eval s = some c)
    (hk : k = old.length) (hc : c = c') (harr : s.arr = old ++ List.replicate c' garbage)
    (hQ : Q { s with arr := old ++ List.replicate c' 0 }) : Runs (.zero i n) s .normal Q := by
  subst hk hc
  exact ⟨_, by simp [St.run, hi, hn, harr], hQ⟩

theorem while_ {c : Ex} (h : loop (fun s' => c.eval s') (fun s' => b.run s') (s.arr.length + 3) s = (s', o)) (hQ : Q s') :
    Runs (.while_ c b) s o Q := ⟨s', h, hQ⟩

/-- the body stops in the first round; a stop in a later round is `loop_step`s, then `loop_stop`, handed to `while_` -/
theorem while_stop {c : Ex} {v : Int} (hc : c.eval s = some v) (hv : v ≠ 0) (hb : Runs b s o Q) (ho : o ≠ .normal) :
    Runs (.while_ c b) s o Q :=
  let ⟨s', hr, hq⟩ := hb; ⟨s', loop_stop (by omega) hc hv hr ho, hq⟩

theorem read {dst max : Ex} {res : Nat} {d m : Int} (hd : dst.eval s = some d) (hm : max.eval s = some m) (hd0 : 0 ≤ d)
    (hm0 : 0 ≤ m) (hfit : d + m ≤ s.arr.length)
    (hQ : Q (setVar { s with arr := s.arr.take d.toNat ++ (List.range (min (s.vars inLen).toNat m.toNat)).map (fun i => s.vars (inByte i)) ++
                                     s.arr.drop (d.toNat + min (s.vars inLen).toNat m.toNat) }
              res (min (s.vars inLen).toNat m.toNat : Nat))) :
    Runs (.read dst max res) s .normal Q := ⟨_, by simp [St.run, hd, hm, hd0, hm0, toNat_add_le hd0 hm0 hfit], hQ⟩

theorem move {dst src n : Ex} {d f c : Int} (hd : dst.eval s = some d) (hf : src.eval s = some f) (hc : n.eval s = some c)
    (h : 0 ≤ d ∧ 0 ≤ f ∧ 0 ≤ c ∧ d.toNat + c.toNat ≤ s.arr.length ∧ f.toNat + c.toNat ≤ s.arr.length)
    (hQ : Q { s with arr := s.arr.take d.toNat ++ (s.arr.drop f.toNat).take c.toNat ++ s.arr.drop (d.toNat + c.toNat) }) :
    Runs (.move dst src n) s .normal Q := ⟨_, by simp [St.run, hd, hf, hc, h], hQ⟩

end Runs

theorem take_drop_cons {α : Type} {l rest : List α} {i k : Nat} {b : α} (h : (l.drop i).take (k + 1) = b :: rest) :
    l[i]? = some b ∧ (l.drop (i + 1)).take k = rest := by
  have hi : i < l.length := by
    apply Nat.lt_of_not_ge
    intro hi
    rw [List.drop_eq_nil_of_le hi] at h
    cases h
  rw [List.drop_eq_getElem_cons hi, List.take_succ_cons, List.cons.injEq] at h
  exact ⟨by rw [List.getElem?_eq_getElem hi, h.1], h.2⟩

/-- a stack at the front of `l`: a push read from right to left, a pop from left to right -/
theorem take_concat_iff {α : Type} {l st : List α} {t : α} :
    l.take (st.length + 1) = st ++ [t] ↔ l.take st.length = st ∧ l[st.length]? = some t := by
  rw [List.take_add_one]
  constructor
  · intro h
    cases hg : l[st.length]? with
    | none =>
      have := congrArg List.length h
      simp [hg] at this
      omega
    | some v => simpa [hg] using List.append_inj' h (by simp [hg])
  · rintro ⟨h1, h2⟩
    rw [h1, h2]; rfl

theorem take_set_set {α : Type} : ∀ (X : List α) (L : Nat) (a b : α), L + 2 ≤ X.length →
    ((X.set L a).set (L + 1) b).take (L + 2) = X.take L ++ [a, b]
  | _ :: _ :: _, 0, _, _, _ => rfl
  | _ :: X, L + 1, a, b, h => by simpa using take_set_set X L a b (by simpa using h)

theorem two_cells {α : Type} : ∀ {l : List α}, 2 ≤ l.length → ∃ a b r, l = a :: b :: r
  | a :: b :: r, _ => ⟨a, b, r, rfl⟩

/-- `c` written over `g` cells of `l` from `k` on, as `read` does -/
theorem splice {α : Type} (l c : List α) {k g : Nat} (hc : c.length = g) (h : k + g ≤ l.length) :
    (l.take k ++ c ++ l.drop (k + g)).length = l.length ∧ (l.take k ++ c ++ l.drop (k + g)).take (k + g) = l.take k ++ c := by
  have hl : (l.take k ++ c).length = k + g := by rw [List.length_append, List.length_take, hc]; omega
  exact ⟨by rw [List.length_append, hl, List.length_drop]; omega, List.take_left' hl⟩

/-- `k` cells of `l` from `t` on moved to its front, as `memmove` does -/
theorem moved_front {α : Type} (l : List α) {t k : Nat} (h : t + k ≤ l.length) :
    ((l.drop t).take k).length = k ∧ ((l.drop t).take k ++ l.drop k).length = l.length ∧
      ((l.drop t).take k ++ l.drop k).take k = (l.drop t).take k := by
  have hl : ((l.drop t).take k).length = k := by rw [List.length_take, List.length_drop]; omega
  exact ⟨hl, by rw [List.length_append, hl, List.length_drop]; omega, List.take_left' hl⟩

end FlexVerif.Imp
